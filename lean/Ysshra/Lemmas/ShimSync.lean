import Ysshra.Lemmas.ShimArr
/-
Without faults of the underlying agent, the slice `filter` works on and the underlying agent's
own identities stay the same set through every call of the `remove` closure: what is swap-removed
from the slice is removed from the agent and vice versa.
-/
namespace Ysshra.Shim
open Ysshra

/-- the slice mirrors an open, unlocked underlying agent -/
structure Sync (s : State) (ka : KeyArr) : Prop where
  closed : s.u.closed = false
  locked : s.u.locked = false
  wf : ka.WF
  distinct : Distinct ka.live
  same : ∀ x, x ∈ s.u.idents ↔ x ∈ ka.live

theorem removeFn_sync (s : State) (ka : KeyArr) (b : Blob) (h : Sync s ka) :
    Sync (removeFn s noFaults ka b).1 (removeFn s noFaults ka b).2.1 := by
  -- the agent loses its entries for `b`, whatever the call returns
  have hu : (removeCore s noFaults b).1.u = { s.u with idents := s.u.idents.filter (·.blob ≠ b) } := by
    rw [removeCore_u, UAgent.remove_noFaults s.u b h.closed h.locked]
  have hmem : ∀ x, x ∈ (removeCore s noFaults b).1.u.idents ↔ x ∈ ka.live ∧ x.blob ≠ b := by
    intro x
    rw [hu, ← h.same]
    simp
  have hclosed : (removeCore s noFaults b).1.u.closed = false := by
    rw [hu]
    exact h.closed
  have hlocked : (removeCore s noFaults b).1.u.locked = false := by
    rw [hu]
    exact h.locked
  simp only [removeFn_eq]   -- not `rw`: the projections of the triple go as well
  split
  · -- the call succeeded: the slice loses them too
    refine ⟨hclosed, hlocked, (swapRemove_shape ka b h.wf).1, swapRemove_distinct ka b h.wf h.distinct, fun x => ?_⟩
    rw [hmem, mem_swapRemove ka b h.wf h.distinct]
  · -- the call failed: the agent held no entry for `b`, so the untouched slice holds none either
    rename_i hok
    rw [removeCore_ok, UAgent.remove_noFaults s.u b h.closed h.locked] at hok
    refine ⟨hclosed, hlocked, h.wf, h.distinct, fun x => ?_⟩
    rw [hmem, and_iff_left_iff_imp]
    intro hx e
    refine hok ?_
    rw [Bool.or_eq_true]
    exact .inl (List.any_eq_true.2 ⟨x, (h.same x).2 hx, decide_eq_true e⟩)

theorem Removes.sync {Q : Cert → Prop} {a r : State × KeyArr} (h : Removes noFaults Q a r) (hs : Sync a.1 a.2) :
    Sync r.1 r.2 :=
  h.preserves (P := fun x => Sync x.1 x.2) hs fun x _ _ hx => removeFn_sync x.1 x.2 _ hx

end Ysshra.Shim

import Ysshra.Lemmas.Gensign
import Ysshra.Props.C05
/-
C02 — signing requests carry server-side identity and policy, never client claims.
-/
namespace Ysshra
namespace C02
open Gensign

/-- Every request the regular handler produces: exactly one principal — the server-side login
    name; exactly the configured validity; the fixed default extension set; the key slot configured
    for the requested CA key algorithm; the key pair drawn for this request. -/
theorem c02_csr (conf : Conf) (p : Param) (w : World) (k : Key) (csr : CSR)
    (h : (regularGenerate conf p w).2.2 = .ok (k, csr)) :
    csr.principals = [p.logName] ∧ csr.validity = conf.validity ∧ csr.extensions = defaultExtensions ∧
    conf.keyIds.lookup p.caAlgo = some csr.keyMeta ∧ csr.publicKey = k ∧ k = .fresh w.rng ∧
    csr.keyId = regularKeyID p := by
  obtain ⟨_, ident, hid, rfl, rfl⟩ := (regularGenerate_ok_iff conf p w k csr).1 h
  exact ⟨rfl, rfl, rfl, hid, rfl, rfl, rfl⟩

/-- … and it is refused, as a configuration error, when no slot is configured for the algorithm. -/
theorem c02_no_slot (conf : Conf) (p : Param) (w : World) (h : conf.keyIds.lookup p.caAlgo = none) :
    (regularGenerate conf p w).2.2 = .error .handlerConf ∨ (regularGenerate conf p w).2.2 = .error .handlerGenCSR := by
  rw [regularGenerate_eq, h]
  dsimp only
  split
  · exact .inl rfl
  · exact .inr rfl

/-- The certified key is a fresh draw: never a registered (long-term) key, and the random source
    moves on, so no two requests — in this run or any later one — certify the same key. -/
theorem c02_key_fresh (conf : Conf) (p : Param) (w : World) (k : Key) (csr : CSR)
    (h : (regularGenerate conf p w).2.2 = .ok (k, csr)) :
    (∀ n, csr.publicKey ≠ .registered n) ∧ (regularGenerate conf p w).1.rng = w.rng + 1 := by
  obtain ⟨_, _, _, _, hk, hf, _⟩ := c02_csr conf p w k csr h
  constructor
  · intro n; rw [hk, hf]; simp
  · rw [regularGenerate_eq]

/-- The KeyID: well-formed — it encodes — and decodes to that same single principal, this
    request's transaction id, the connection's source IP, the client-declared user and host
    verbatim, version 1, not firefighter / hardware / headless / nonce, all usages, never-touch;
    for every string (JSON metacharacters and non-ASCII included: C05's round trip is unconditional). -/
theorem c02_keyid (p : Param) :
    ∃ j, KeyID.marshal (regularKeyID p) = .ok j ∧
      KeyID.unmarshal (some j) = .ok
        ⟨some [p.logName], p.transID, p.reqUser, p.clientIP, p.reqHost, false, false, false, false, 0,
         KeyID.NeverTouch, 1⟩ := by
  have hm : ∃ j, KeyID.marshal (regularKeyID p) = .ok j := by
    apply (C05.c05_marshal_ok_iff _).2
    exact ⟨rfl, by simp [KeyID.consistent, regularKeyID]⟩
  obtain ⟨j, hj⟩ := hm
  refine ⟨j, hj, ?_⟩
  exact C05.c05_roundtrip (regularKeyID p) (by simp [KeyID.wf, regularKeyID]) j hj

/-! Across the handlers of one run and across any number of runs on the same server state, every
draw takes the next index of the random source, which only moves forward. -/

/-- the random-source index an event consumed: the challenge of an authentication, the key pair of
    a private-key addition -/
def Event.draw : Event → Option Nat
  | .agentSign _ d _ => some d
  | .agentAdd (.fresh r) none _ _ _ => some r
  | _ => none

def draws (tr : Trace) : List Nat := tr.filterMap Event.draw

/-- the draws of `tr` are exactly the indices from `lo` up to `hi`, in order -/
def Fresh (lo hi : Nat) (tr : Trace) : Prop := ∃ n, hi = lo + n ∧ draws tr = List.range' lo n

theorem Fresh.nil {lo : Nat} : Fresh lo lo [] := ⟨0, rfl, rfl⟩

theorem Fresh.skip {lo : Nat} {e : Event} (he : Event.draw e = none) : Fresh lo lo [e] :=
  ⟨0, rfl, by simp [draws, he]⟩

theorem Fresh.single {lo : Nat} {e : Event} (he : Event.draw e = some lo) : Fresh lo (lo + 1) [e] :=
  ⟨1, rfl, by simp [draws, he]⟩

theorem draws_append (t1 t2 : Trace) : draws (t1 ++ t2) = draws t1 ++ draws t2 :=
  List.filterMap_append

theorem Fresh.append {a b c : Nat} {t1 t2 : Trace} (h1 : Fresh a b t1) (h2 : Fresh b c t2) :
    Fresh a c (t1 ++ t2) := by
  obtain ⟨m, rfl, e1⟩ := h1
  obtain ⟨n, rfl, e2⟩ := h2
  exact ⟨m + n, Nat.add_assoc .., by rw [draws_append, e1, e2, List.range'_append_1]⟩

theorem Fresh.pairwise {lo hi : Nat} {tr : Trace} (h : Fresh lo hi tr) : (draws tr).Pairwise (· < ·) := by
  obtain ⟨n, _, e⟩ := h
  rw [e]
  exact List.pairwise_lt_range'

theorem Fresh.stagewise : Stagewise fun w t _ w' => Fresh w.rng w'.rng t :=
  .of _ (fun _ => .nil) .append

/-- one whole run: every elementary step is one event that draws the next index (`single`) or draws
    nothing (`skip`) -/
theorem run_fresh (conf : Conf) (p : Param) (hs : List Handler) (w : World) :
    Fresh w.rng (run conf p hs w).1.rng (run conf p hs w).2.1 := by
  refine run_stagewise Fresh.stagewise conf p (fun _ _ => .skip rfl) ?_ (fun _ _ => .skip rfl) ?_ ?_ ?_ hs w
  · intro w
    rcases regularAuth_cases conf p w with h | ⟨pk, _, _, _, h⟩ <;> rw [h]
    · exact .nil
    · exact .single rfl
  · intro w
    rw [regularGenerate_eq]
    exact .single rfl
  · intro k w
    rw [caSign_trace, (caSign_frame k w).2]
    exact .skip rfl
  · intro n certs w
    exact addCerts_stagewise Fresh.stagewise (.skip rfl) (fun _ _ _ _ => .skip rfl) (fun _ _ _ _ => .skip rfl)

/-- a request as the server sees it: configuration, parameters, handler list, and the user's
    forwarded agent and the CA's behaviour at that time -/
structure Req where
  conf : Conf
  p : Param
  hs : List Handler
  agent : Agent
  ca : List CAReply

/-- a history of runs on one server: the random source carries over, agent and CA are the run's own -/
def history : World → List Req → World × Trace
  | w, [] => (w, [])
  | w, r :: rest =>
    let out := run r.conf r.p r.hs { w with agent := r.agent, ca := r.ca }
    let h := history out.1 rest
    (h.1, out.2.1 ++ h.2)

theorem history_fresh (w : World) (l : List Req) : Fresh w.rng (history w l).1.rng (history w l).2 := by
  induction l generalizing w with
  | nil => exact .nil
  | cons r rest ih =>
    exact (run_fresh r.conf r.p r.hs { w with agent := r.agent, ca := r.ca }).append (ih _)

/-- **Freshness over every history.** In any sequence of runs — any handler lists, any agents, any
    CA behaviour, any faults — every challenge sent for signing and every key pair put into an
    agent takes its own index of the random source: no challenge is issued twice, no key pair is
    certified twice, and no challenge coincides with a key draw. -/
theorem c02_history_fresh (w : World) (l : List Req) : (draws (history w l).2).Nodup :=
  (history_fresh w l).pairwise.imp Nat.ne_of_lt

theorem history_draws_lt (w : World) (l : List Req) {i j : Nat} (hij : i < j) {e1 e2 : Event} {d1 d2 : Nat}
    (h1 : (history w l).2[i]? = some e1) (h2 : (history w l).2[j]? = some e2)
    (hd1 : Event.draw e1 = some d1) (hd2 : Event.draw e2 = some d2) : d1 < d2 := by
  have hp := (history_fresh w l).pairwise
  unfold draws at hp
  rw [List.pairwise_filterMap, List.pairwise_iff_getElem] at hp
  obtain ⟨hi, rfl⟩ := List.getElem?_eq_some_iff.mp h1
  obtain ⟨hj, rfl⟩ := List.getElem?_eq_some_iff.mp h2
  exact hp i j hi hj hij d1 hd1 d2 hd2

/-- … in particular two private-key additions anywhere in a history are for different keys, unless
    they are the same event. -/
theorem c02_keys_distinct (w : World) (l : List Req) (i j : Nat) (hij : i < j)
    (r1 r2 : Nat) (lt1 lt2 : Nat) (cm1 cm2 : Bytes) (ok1 ok2 : Bool)
    (h1 : (history w l).2[i]? = some (.agentAdd (.fresh r1) none lt1 cm1 ok1))
    (h2 : (history w l).2[j]? = some (.agentAdd (.fresh r2) none lt2 cm2 ok2)) : r1 < r2 :=
  history_draws_lt w l hij h1 h2 rfl rfl

/-- … and two challenges anywhere in a history differ: a signature obtained for one can never
    answer another. -/
theorem c01_challenges_distinct (w : World) (l : List Req) (i j : Nat) (hij : i < j)
    (pk1 pk2 : Key) (d1 d2 : Nat) (ok1 ok2 : Bool)
    (h1 : (history w l).2[i]? = some (.agentSign pk1 d1 ok1))
    (h2 : (history w l).2[j]? = some (.agentSign pk2 d2 ok2)) : d1 < d2 :=
  history_draws_lt w l hij h1 h2 rfl rfl

/-- Non-vacuity: two runs of the regular handler for the same user draw challenges 7 and 9 and
    key pairs 8 and 10. -/
example :
    let conf : Conf := ⟨3600, [(0, c!"id")], ⟨.key (.registered 1), .absent⟩⟩
    let p : Param := ⟨true, false, c!"alice", c!"t", c!"i", c!"u", c!"h", 0⟩
    let ag : Agent := ⟨[⟨.registered 1, none, [], 0⟩], .honest, 0, none, none⟩
    let r : Req := ⟨conf, p, [.regular], ag, [.certs 1 1]⟩
    draws (history ⟨ag, 7, [], 0⟩ [r, r]).2 = [7, 8, 9, 10] := by
  decide

end C02
end Ysshra

import Ysshra.Lemmas.AddCerts
import Ysshra.Props.C01
/-
C03 — provisioned credentials are usable, key-bound, ephemeral and non-destructive.
-/
namespace Ysshra
namespace C03
open Gensign

/-- The agent lifetime `uint32(validity) + uint32(3600)`: for every validity from one second to
    ten years it is finite (non-zero) and not shorter than the certificate validity. -/
theorem c03_lifetime (v : Nat) (h1 : 1 ≤ v) (h2 : v ≤ 315576000) :
    lifetimeOf v = v + 3600 ∧ lifetimeOf v ≠ 0 ∧ v ≤ lifetimeOf v := by
  unfold lifetimeOf
  omega

/-- the bound is about the range the statement names: at 2^32 − 3600 the sum wraps to 0, which an
    agent reads as "no lifetime" (outside one second … ten years) -/
example : lifetimeOf (2 ^ 32 - 3600) = 0 := by decide

/-- The private key is inserted with that lifetime … -/
theorem c03_private_key_add (conf : Conf) (p : Param) (w : World) :
    ∀ e ∈ (regularGenerate conf p w).2.1,
      ∃ ok, e = .agentAdd (.fresh w.rng) none (lifetimeOf conf.validity) privateKeyLabel ok := by
  rw [regularGenerate_eq]
  exact fun e he => ⟨_, List.mem_singleton.1 he⟩

/-- … and every certificate is stored together with the same private key, under the handler's
    certificate label, with the same finite lifetime; everything else `AddCertsToAgent` sends is a
    listing or a removal. -/
theorem c03_cert_adds (conf : Conf) (k : Key) (certs : List (Option CertV)) (w : World) :
    ∀ e ∈ (addCerts conf k certs w).2.1,
      (∃ ok, e = .agentList ok) ∨ (∃ k' c ok, e = .agentRemove k' c ok) ∨
      (∃ c ok, e = .agentAdd k (some c) (lifetimeOf conf.validity) certLabel ok) :=
  addCerts_stagewise (.events _)
    (List.forall_mem_singleton.2 (.inl ⟨_, rfl⟩))
    (fun _ _ _ _ => List.forall_mem_singleton.2 (.inr (.inl ⟨_, _, _, rfl⟩)))
    (fun _ _ _ _ => List.forall_mem_singleton.2 (.inr (.inr ⟨_, _, rfl⟩)))

/-- no two identities of an agent share their public blob (x/crypto's keyring replaces on add) -/
def uniqueBlobs (ids : List AIdent) : Prop :=
  ∀ x ∈ ids, ∀ y ∈ ids, x.key = y.key → x.cert = y.cert → x = y

/-- Identities that do not carry the handler's label — plain keys, foreign certificates, comments
    that are near-misses of the label — are never removed or altered by `AddCertsToAgent`, whether
    it succeeds or fails at any request. -/
theorem c03_foreign_untouched (conf : Conf) (k : Key) (certs : List (Option CertV)) (w : World) (x : AIdent)
    (hx : x ∈ w.agent.idents) (hf : containsSub handlerName x.comment = false) (hk : x.key ≠ k)
    (hu : uniqueBlobs w.agent.idents) :
    x ∈ (addCerts conf k certs w).1.agent.idents := by
  refine addCerts_stagewise (.idents (x ∈ ·)) (by rw [agentList_idents]; exact id) ?_ ?_ hx
  · -- a labelled identity of the listing with the blob of `x` would be `x`
    intro a id hid hlab hxa
    refine (mem_agentRemove a id x).2 ⟨hxa, fun _ hsame => ?_⟩
    rw [hu x hx id hid hsame.1 hsame.2, hlab] at hf
    cases hf
  · exact fun a c _ _ hxa => agentAdd_keeps a _ x hxa fun h => hk h.1

/-- **After a successful run** the agent holds every certificate the CA returned for the new key,
    each stored together with that private key (`key = k`), under the certificate label, with the
    finite lifetime. -/
theorem c03_success_stores (conf : Conf) (k : Key) (certs : List (Option CertV)) (w : World)
    (h : (addCerts conf k certs w).2.2 = true) :
    ∀ c, some c ∈ certs →
      certRec k (lifetimeOf conf.validity) c ∈ (addCerts conf k certs w).1.agent.idents := by
  obtain ⟨a, a1, tr1, _, hadd, hfin⟩ := addCerts_ok_shape conf k certs w h
  intro c hc
  rw [hfin]
  exact adds_ok_present k _ a1 tr1 certs hadd c hc

/-- **At most one generation**: after a successful run every identity that carries the handler's
    label is a certificate of this run (those of earlier runs are gone). -/
theorem c03_one_generation (conf : Conf) (k : Key) (certs : List (Option CertV)) (w : World)
    (h : (addCerts conf k certs w).2.2 = true) :
    ∀ y ∈ (addCerts conf k certs w).1.agent.idents, containsSub handlerName y.comment = true →
      ∃ c, some c ∈ certs ∧ y = certRec k (lifetimeOf conf.validity) c := by
  obtain ⟨a, a1, tr1, hrem, _, hfin⟩ := addCerts_ok_shape conf k certs w h
  intro y hy hlab
  rw [hfin] at hy
  refine (adds_new k _ a1 tr1 certs y hy).resolve_left fun hold => ?_
  -- it was there after the refresh: but the refresh left nothing labelled
  rw [removes_ok_no_label hrem y hold] at hlab
  cases hlab

/-- `hfail`, `hnot`: the run does not reach `AddCertsToAgent` — nobody authenticates, request
    generation fails, the CA fails or panics, a script fails -/
theorem run_early_keeps (conf : Conf) (p : Param) (hs : List Handler) (w : World) (x : AIdent)
    (hx : x ∈ w.agent.idents) (hfresh : ∀ n, w.rng ≤ n → x.key ≠ .fresh n)
    (hfail : (run conf p hs w).2.2 ≠ .ok) (hnot : (run conf p hs w).2.2 ≠ .err .agentOpCert) :
    x ∈ (run conf p hs w).1.agent.idents := by
  have hq := selectHandler_quiet conf p 0 hs w
  rcases run_cases conf p hs w with ⟨e, _, hrun⟩ | ⟨i, hd, w', t, r, _, hf, hrun⟩ <;> rw [hrun] at hfail hnot ⊢
  · rw [hq.idents]
    exact hx
  · have hgen : x ∈ (regularGenerate conf p (selectHandler conf p 0 hs w).1).1.agent.idents := by
      rw [regularGenerate_eq]
      exact agentAdd_keeps _ _ x (hq.idents ▸ hx) fun e => hfresh _ hq.rng e.1
    cases hf with
    | generateFailed _ _ => exact hgen
    | signFailed _ _ _ _ _ =>
      rw [signAll_agent]
      exact hgen
    | added k _ certs _ _ =>
      generalize (addCerts conf k certs _).2.2 = ok at hfail hnot
      cases ok <;> simp at hfail hnot
    | scripted _ _ _ _ =>
      rw [signAll_agent, hq.idents]
      exact hx

/-- A run of the regular handler that **fails before or during signing** — request generation
    fails, or the CA fails or panics — removes nothing: every identity the agent held is still
    there (only the new private key may have been added). -/
theorem c03_failed_signing_keeps (conf : Conf) (p : Param) (w : World) (x : AIdent)
    (hx : x ∈ w.agent.idents)
    (hfresh : ∀ n, w.rng ≤ n → x.key ≠ .fresh n)
    (hfail : (run conf p [.regular] w).2.2 ≠ .ok) (hnot : (run conf p [.regular] w).2.2 ≠ .err .agentOpCert) :
    x ∈ (run conf p [.regular] w).1.agent.idents :=
  run_early_keeps conf p [.regular] w x hx hfresh hfail hnot

theorem run_ok_regular {conf : Conf} {p : Param} {hs : List Handler} {w w1 : World} {tr : Trace} {i : Nat}
    (hsel : selectHandler conf p 0 hs w = (w1, tr, .ok (i, .regular))) (h : (run conf p hs w).2.2 = .ok) :
    ∃ w2 w3 k csr certs,
      (regularGenerate conf p w1).2.2 = .ok (k, csr) ∧ (regularGenerate conf p w1).1 = w2 ∧
      (signAll k 1 w2).2.2 = .ok certs ∧ (signAll k 1 w2).1 = w3 ∧
      (addCerts conf k certs w3).2.2 = true ∧ (run conf p hs w).1 = (addCerts conf k certs w3).1 := by
  obtain ⟨w', t, r, hf, hrun⟩ := run_of_selected hsel
  rw [hrun] at h ⊢
  cases hf with
  | generateFailed _ _ => cases h
  | signFailed _ _ _ _ _ => cases h
  | added k csr certs hg hsg =>
    refine ⟨_, _, k, csr, certs, hg, rfl, hsg, rfl, ?_, rfl⟩
    generalize (addCerts conf k certs _).2.2 = ok at h ⊢
    cases ok
    · cases h
    · rfl

/-- A successful run of the regular handler *is* a successful `AddCertsToAgent` for the key the
    run generated and the certificates the CA returned for it — so `c03_success_stores` and
    `c03_one_generation` describe the agent after the run. -/
theorem c03_run_success (conf : Conf) (p : Param) (w : World) (h : (run conf p [.regular] w).2.2 = .ok) :
    ∃ w1 w2 w3 k csr certs,
      (regularGenerate conf p w1).2.2 = .ok (k, csr) ∧ (regularGenerate conf p w1).1 = w2 ∧
      (signAll k 1 w2).2.2 = .ok certs ∧ (signAll k 1 w2).1 = w3 ∧
      (addCerts conf k certs w3).2.2 = true ∧
      (run conf p [.regular] w).1 = (addCerts conf k certs w3).1 := by
  have hsel := selectHandler_regular conf p w
  split at hsel
  · exact ⟨_, run_ok_regular hsel h⟩
  · rw [run_of_refused hsel] at h
    cases h

/-- A run that fails before certificates are added — nobody authenticates — leaves every identity
    in place (in particular all certificates provisioned by earlier runs). -/
theorem c03_failed_auth_keeps (conf : Conf) (p : Param) (hs : List Handler) (w : World)
    (hnone : ∀ j h, (selectHandler conf p 0 hs w).2.2 ≠ .ok (j, h)) :
    (run conf p hs w).1.agent.idents = w.agent.idents :=
  (C01.c01_none_authenticates conf p hs w hnone).2.2

/-- Non-vacuity: two successful runs in a row — the second removes the first generation, keeps
    the user's key and a near-miss comment. -/
example :
    let conf : Conf := ⟨3600, [(0, c!"id")], ⟨.key (.registered 1), .absent⟩⟩
    let p : Param := ⟨true, false, c!"alice", c!"t", c!"i", c!"u", c!"h", 0⟩
    let ag : Agent := ⟨[⟨.registered 1, none, [], 0⟩, ⟨.registered 2, none, b!"Paranoids.Regular-cert", 0⟩], .honest, 0, none, none⟩
    let r1 := run conf p [.regular] ⟨ag, 0, [.certs 2 2], 0⟩
    let r2 := run conf p [.regular] ⟨{ r1.1.agent with ops := 0 }, r1.1.rng, [.certs 1 1], r1.1.lastCert⟩
    r2.2.2 = .ok ∧
    (r2.1.agent.idents.filter fun x => containsSub handlerName x.comment) =
      [⟨.fresh 3, some ⟨3, .fresh 3⟩, certLabel, 7200⟩] ∧
    r2.1.agent.idents.contains ⟨.registered 2, none, b!"Paranoids.Regular-cert", 0⟩ = true := by decide

/-! Over every history of runs against one agent: the identities stay unique, so what `c03_foreign_untouched`
says of one `AddCertsToAgent` holds of every run. -/

theorem agentAdd_unique (a : Agent) (id : AIdent) (hu : uniqueBlobs a.idents) :
    uniqueBlobs (agentAdd a id).1.idents := by
  intro x hx y hy h1 h2
  rw [mem_agentAdd] at hx hy
  by_cases hok : (agentAdd a id).2 = true
  · -- granted: `id` is there once, the rest has other blobs
    rw [if_pos hok] at hx hy
    rcases hx with rfl | ⟨hx, nx⟩ <;> rcases hy with rfl | ⟨hy, ny⟩
    · rfl
    · exact absurd ⟨h1.symm, h2.symm⟩ ny
    · exact absurd ⟨h1, h2⟩ nx
    · exact hu x hx y hy h1 h2
  · rw [if_neg hok] at hx hy
    exact hu x hx y hy h1 h2

theorem addCerts_unique (conf : Conf) (k : Key) (certs : List (Option CertV)) (w : World)
    (hu : uniqueBlobs w.agent.idents) : uniqueBlobs (addCerts conf k certs w).1.agent.idents :=
  addCerts_stagewise (.idents uniqueBlobs) (by rw [agentList_idents]; exact id)
    (fun a id _ _ hu x hx y hy => hu x ((mem_agentRemove a id x).1 hx).1 y ((mem_agentRemove a id y).1 hy).1)
    (fun a _ _ _ => agentAdd_unique a _) hu

/-- an identity of a long-term key whose comment does not carry the handler's label -/
def Foreign (x : AIdent) : Prop :=
  containsSub handlerName x.comment = false ∧ ∃ n, x.key = .registered n

/-- every elementary step hands both on; they go together because `c03_foreign_untouched` needs the
    identities unique -/
theorem run_keeps_foreign (conf : Conf) (p : Param) (hs : List Handler) (w : World) (x : AIdent)
    (hx : x ∈ w.agent.idents) (hf : Foreign x) (hu : uniqueBlobs w.agent.idents) :
    x ∈ (run conf p hs w).1.agent.idents ∧ uniqueBlobs (run conf p hs w).1.agent.idents := by
  obtain ⟨hlab, m, hm⟩ := hf
  have hne : ∀ n, x.key ≠ .fresh n := fun n h => by rw [hm] at h; cases h
  refine run_stagewise (.idents fun ids => x ∈ ids ∧ uniqueBlobs ids) conf p (fun _ _ => id) ?_ (fun _ _ => id) ?_ ?_ ?_
    hs w ⟨hx, hu⟩
  · intro w
    rw [(regularAuth_quiet conf p w).idents]
    exact id
  · intro w ⟨hx, hu⟩
    rw [regularGenerate_eq]
    exact ⟨agentAdd_keeps _ _ x hx fun e => hne _ e.1, agentAdd_unique _ _ hu⟩
  · intro k w
    rw [(caSign_frame k w).1]
    exact id
  · exact fun n certs w ⟨hx, hu⟩ =>
      ⟨c03_foreign_untouched conf _ certs w x hx hlab (hne n) hu, addCerts_unique conf _ certs w hu⟩

/-- one request against the user's agent: configuration, parameters, handlers, how the agent
    behaves and where it fails during this run, and the CA's replies -/
structure Visit where
  conf : Conf
  p : Param
  hs : List Handler
  behav : SignBehav
  failAt : Option Nat
  closeAt : Option Nat
  ca : List CAReply

/-- the world a visit starts from: the agent's identities and the random source carry over from
    the previous run; behaviour, fault points and CA replies are the visit's own -/
def Visit.start (v : Visit) (w : World) : World :=
  { w with agent := ⟨w.agent.idents, v.behav, 0, v.failAt, v.closeAt⟩, ca := v.ca }

/-- a history of visits on one agent -/
def visits : World → List Visit → World
  | w, [] => w
  | w, v :: rest => visits (run v.conf v.p v.hs (v.start w)).1 rest

/-- **Foreign identities survive every history.** After any number of runs against the same agent
    — any handler lists, any behaviour of the agent, a failure or a closed connection at any
    request, any CA replies, successes and failures mixed — an identity of a long-term key that
    does not carry the handler's label is still there, unaltered. -/
theorem c03_history_foreign_kept (w : World) (l : List Visit) (x : AIdent)
    (hx : x ∈ w.agent.idents) (hf : Foreign x) (hu : uniqueBlobs w.agent.idents) :
    x ∈ (visits w l).agent.idents := by
  induction l generalizing w with
  | nil => exact hx
  | cons v rest ih =>
    have h := run_keeps_foreign v.conf v.p v.hs (v.start w) x hx hf hu
    exact ih _ h.1 h.2

/-- Non-vacuity: the user's own key (registered 1, comment "user key") and a near-miss comment
    survive a successful run followed by a run whose signing fails. -/
example :
    let conf : Conf := ⟨3600, [(0, c!"id")], ⟨.key (.registered 1), .absent⟩⟩
    let p : Param := ⟨true, false, c!"alice", c!"t", c!"i", c!"u", c!"h", 0⟩
    let mine : AIdent := ⟨.registered 1, none, b!"user key", 0⟩
    let near : AIdent := ⟨.registered 2, none, b!"paranoids.regula", 0⟩
    let w : World := ⟨⟨[mine, near], .honest, 0, none, none⟩, 7, [], 0⟩
    let l : List Visit := [⟨conf, p, [.regular], .honest, none, none, [.certs 2 2]⟩, ⟨conf, p, [.regular], .honest, none, none, [.err]⟩]
    mine ∈ (visits w l).agent.idents ∧ near ∈ (visits w l).agent.idents ∧ (visits w l).agent.idents.length = 6 := by
  decide

end C03
end Ysshra

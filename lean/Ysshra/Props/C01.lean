import Ysshra.Lemmas.Gensign
/-
C01 — certificates are requested only after proof of possession of the registered key.
Partial: "unpredictable challenge" and "a forged / replayed signature does not verify" are
assumptions about crypto/rand and the signature scheme (the honest-signer law is built into
`verifies`); the theorems pin *which* verification gates everything.
-/
namespace Ysshra
namespace C01
open Gensign

/-- the selection loop's part of the trace is a prefix of the run's trace -/
theorem run_trace_prefix (conf : Conf) (p : Param) (hs : List Handler) (w : World) :
    ∃ rest, (run conf p hs w).2.1 = (selectHandler conf p 0 hs w).2.1 ++ rest ∧
      ((∀ j h, (selectHandler conf p 0 hs w).2.2 ≠ .ok (j, h)) → rest = []) := by
  rcases run_cases conf p hs w with ⟨e, _, hrun⟩ | ⟨i, h, w', t, r, hsel, _, hrun⟩ <;> rw [hrun]
  · exact ⟨[], (List.append_nil _).symm, fun _ => rfl⟩
  · exact ⟨.generate i :: t, rfl, fun hne => absurd hsel (hne i h)⟩

/-- If no handler authenticates, nothing is generated, nothing is signed, nothing is added to
    the agent, and the run reports that all authentications failed (or a panic, when a handler
    crashed while being asked). -/
theorem c01_none_authenticates (conf : Conf) (p : Param) (hs : List Handler) (w : World)
    (hnone : ∀ j h, (selectHandler conf p 0 hs w).2.2 ≠ .ok (j, h)) :
    (∀ e ∈ (run conf p hs w).2.1, e.issues = false) ∧
    ((run conf p hs w).2.2 = .err .allAuthFailed ∨ (run conf p hs w).2.2 = .err .panic) ∧
    (run conf p hs w).1.agent.idents = w.agent.idents := by
  have hq := selectHandler_quiet conf p 0 hs w
  rcases run_cases conf p hs w with ⟨e, hsel, hrun⟩ | ⟨i, h, _, _, _, hsel, _, _⟩
  · rw [hrun]
    exact ⟨hq.issues, by rcases selectHandler_err conf p 0 hs w e hsel with rfl | rfl <;> simp, hq.idents⟩
  · exact absurd hsel (hnone i h)

/-- The gate: whenever a run generates a request, calls the CA or adds anything to the agent,
    some handler `j` authenticated — the first one in configured order to do so, every earlier one
    having been asked and having refused — and if it is the regular handler then the request asked
    for neither a foreign namespace nor a hardware key, a key `pk` is registered for the login name,
    and the forwarded agent returned a signature over the fresh challenge of this very call that
    verifies under `pk`; that sign request is in the trace before anything is issued. -/
theorem c01_gate (conf : Conf) (p : Param) (hs : List Handler) (w : World)
    (e : Event) (he : e ∈ (run conf p hs w).2.1) (hi : e.issues = true) :
    ∃ j h, (selectHandler conf p 0 hs w).2.2 = .ok (j, h) ∧ hs[j]? = some h ∧
      (h = .regular →
        p.nons = true ∧ p.hardKey = false ∧
        ∃ (pk : Key) (w0 : World) (sig : SigV), registeredKey conf.dir = some pk ∧ w.rng ≤ w0.rng ∧
          (agentSign w0.agent pk w0.rng).2 = some sig ∧ verifies pk w0.rng sig = true ∧
          Event.agentSign pk w0.rng true ∈ (selectHandler conf p 0 hs w).2.1) := by
  cases hsel : (selectHandler conf p 0 hs w).2.2 with
  | error e' =>
    have hnone : ∀ j h, (selectHandler conf p 0 hs w).2.2 ≠ .ok (j, h) := fun j h hh => by
      rw [hsel] at hh
      cases hh
    rw [(c01_none_authenticates conf p hs w hnone).1 e he] at hi
    cases hi
  | ok jh =>
    obtain ⟨j, h⟩ := jh
    obtain ⟨_, hget, w0, pre, hauth, htr, hrng⟩ := selectHandler_ok conf p 0 hs w j h hsel
    refine ⟨j, h, rfl, hget, ?_⟩
    rintro rfl
    obtain ⟨pk, sig, hn, hh, hpk, hsig, hver, htrace, _⟩ := regularAuth_ok conf p w0 hauth
    refine ⟨hn, hh, pk, w0, sig, hpk, hrng, hsig, hver, ?_⟩
    rw [htr, authOf_regular, htrace]
    simp

/-- Freshness across runs: the challenge of an authentication is the current index of the random
    source, which every authentication advances and nothing ever moves back — so the challenges
    of successive runs are pairwise distinct (as draws; see the header for what that assumes). -/
theorem c01_fresh (conf : Conf) (p : Param) (w : World) (h : (regularAuth conf p w).2.2 = none) :
    ∃ pk, (regularAuth conf p w).2.1 = [.agentSign pk w.rng true] ∧ (regularAuth conf p w).1.rng = w.rng + 1 := by
  obtain ⟨pk, _, _, _, _, _, _, h1, h2⟩ := regularAuth_ok conf p w h
  exact ⟨pk, h1, h2⟩

/-- a signature made for an earlier challenge, by another key, or over other data does not pass -/
theorem c01_wrong_signature_rejected (pk k : Key) (d d' : Nat) (h : k ≠ pk ∨ d' ≠ d) :
    verifies pk d (.by k d') = false ∧ verifies pk d .garbage = false ∧ verifies pk d .empty = false := by
  refine ⟨?_, rfl, rfl⟩
  rcases h with h | h <;> simp [verifies, h]

/-- Non-vacuity: the honest agent holding the registered key gets through; the same agent signing
    other data does not. -/
example :
    let conf : Conf := ⟨3600, [(0, c!"id")], ⟨.key (.registered 1), .absent⟩⟩
    let p : Param := ⟨true, false, c!"alice", c!"t", c!"i", c!"u", c!"h", 0⟩
    let ag : Agent := ⟨[⟨.registered 1, none, [], 0⟩], .honest, 0, none, none⟩
    (run conf p [.regular] ⟨ag, 7, [.certs 1 1], 0⟩).2.2 = .ok ∧
    (run conf p [.regular] ⟨{ ag with behav := .otherData }, 7, [.certs 1 1], 0⟩).2.2 = .err .allAuthFailed := by
  decide

end C01
end Ysshra

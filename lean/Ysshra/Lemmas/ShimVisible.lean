import Ysshra.Lemmas.Shim
/-
What `List` and `Signers` show of the underlying agent's identities is a filter whose test does not
depend on what was seen before (`listVisible_out`); what they, and every other operation, do to the
mode and the cache is `CacheStep`.
-/
namespace Ysshra.Shim
open Ysshra

/-- what a listing hides of the underlying agent's certificates: those in the cache and, in
    no-upstream mode, those that decode as YSSHCA KeyIDs (they enter the cache on first sight) -/
def hidden (s : State) (c : Cert) : Bool := s.cache.contains c || (s.noUp && c.ysshca)

/-- an underlying identity as `List` shows it -/
def shown (s : State) (id : Ident) : Option Ident :=
  match id.blob with
  | .key _ => some id
  | .cert c => if hidden s c then none else some ⟨.cert c, listComment c id.comment⟩

theorem shown_blob {s : State} {id id' : Ident} (h : shown s id = some id') : id'.blob = id.blob := by
  unfold shown at h
  split at h
  · cases h
    rfl
  · rename_i hb
    split at h
    · cases h
    · cases h
      exact hb.symm

theorem shown_isSome (s : State) (id : Ident) :
    (shown s id).isSome = true ↔ ∀ c, id.blob = .cert c → hidden s c = false := by
  unfold shown
  cases id.blob with
  | key k => simp
  | cert c => cases hidden s c <;> simp

/-- caching a certificate that was hidden already hides nothing more -/
theorem shown_cache_append (s : State) (c : Cert) (h : (s.noUp && c.ysshca) = true) :
    shown { s with cache := s.cache ++ [c] } = shown s := by
  have : hidden { s with cache := s.cache ++ [c] } = hidden s := by
    funext c'
    by_cases e : c' = c
    · subst e
      simp [hidden, h]
    · simp [hidden, e]
  unfold shown
  rw [this]

/- `listVisible.induct` has the cases: no identity left; a plain key; a cached certificate; a YSSHCA
   certificate in no-upstream mode, which enters the cache; a certificate that is shown. -/
theorem listVisible_out (s : State) (ids : List Ident) : (listVisible s ids).2 = ids.filterMap (shown s) := by
  fun_induction listVisible s ids with
  | case1 => rfl
  | case2 s id r k hb s' l hr ih =>
    rw [hr] at ih
    simp only [List.filterMap_cons, shown, hb, ← ih]
  | case3 s id r c hb hc ih =>
    simp only [List.filterMap_cons, shown, hb, hidden, hc, Bool.true_or, ↓reduceIte, ih]
  | case4 s id r c hb hc hy ih =>
    rw [ih, shown_cache_append s c hy]
    simp only [List.filterMap_cons, shown, hb, hidden, hy, Bool.or_true, ↓reduceIte]
  | case5 s id r c hb hc hy s' l hr ih =>
    rw [hr] at ih
    simp only [List.filterMap_cons, shown, hb, hidden, hc, hy, Bool.or_false, Bool.false_eq_true, ↓reduceIte, ← ih]

theorem listVisible_blobs (s : State) (keys : List Ident) :
    ∀ id ∈ (listVisible s keys).2, ∃ id0 ∈ keys, id.blob = id0.blob := by
  intro id hid
  rw [listVisible_out, List.mem_filterMap] at hid
  obtain ⟨id0, h0, h⟩ := hid
  exact ⟨id0, h0, shown_blob h⟩

/-- `Signers` hides what `List` hides in no-upstream mode, and nothing otherwise (not even what is
    in the cache: shimserver.go consults it only behind the mode test) -/
theorem signersVisible_eq (s : State) (ids : List Ident) :
    signersVisible s ids = if s.noUp then ((listVisible s ids).1, (listVisible s ids).2.map (·.blob))
      else (s, ids.map (·.blob)) := by
  induction ids generalizing s with
  | nil => cases s.noUp <;> rfl
  | cons id r ih =>
    unfold signersVisible listVisible
    cases hn : s.noUp with
    | false => simp [ih s, hn]
    | true =>
      cases hb : id.blob with
      | key k => simp [ih s, hn, hb]
      | cert c =>
        dsimp only
        cases hc : s.cache.contains c with
        | true => simp [ih s, hn]
        | false =>
          cases hy : c.ysshca with
          | true => simp [ih _]
          | false => simp [ih s, hn]

/-- the mode is kept, and the cache gains at most YSSHCA certificates, and those only with the mode on -/
structure CacheStep (s s' : State) : Prop where
  noUp : s'.noUp = s.noUp
  cache : ∀ c ∈ s'.cache, c ∈ s.cache ∨ s.noUp = true ∧ c.ysshca = true

theorem CacheStep.refl (s : State) : CacheStep s s := ⟨rfl, fun _ h => .inl h⟩

/-- only mode and cache of the new state matter -/
theorem CacheStep.of_eq {s a b : State} (h : CacheStep s a) (hn : b.noUp = a.noUp) (hc : b.cache = a.cache) :
    CacheStep s b :=
  ⟨hn.trans h.noUp, fun c hx => h.cache c (hc ▸ hx)⟩

theorem CacheStep.trans {a b c : State} (h1 : CacheStep a b) (h2 : CacheStep b c) : CacheStep a c :=
  ⟨h2.noUp.trans h1.noUp, fun x hx => (h2.cache x hx).elim (h1.cache x) fun h => .inr ⟨h1.noUp ▸ h.1, h.2⟩⟩

theorem Shrinks.cacheStep {s s' : State} (h : Shrinks s s') : CacheStep s s' :=
  ⟨h.noUp, fun c hc => .inl (h.cache c hc)⟩

theorem listVisible_cacheStep (s : State) (ids : List Ident) : CacheStep s (listVisible s ids).1 := by
  fun_induction listVisible s ids with
  | case1 s => exact .refl s
  | case2 _ _ _ _ _ _ _ hr ih | case5 _ _ _ _ _ _ _ _ _ hr ih => rwa [hr] at ih
  | case3 _ _ _ _ _ _ ih => exact ih
  | case4 s id r c hb hc hy ih =>
    refine .trans (b := { s with cache := s.cache ++ [c] }) ⟨rfl, fun c' hc' => ?_⟩ ih
    rcases List.mem_append.1 hc' with h | h
    · exact .inl h
    · rw [List.mem_singleton.1 h]
      exact .inr (by simpa using hy)

theorem signersVisible_cacheStep (s : State) (ids : List Ident) : CacheStep s (signersVisible s ids).1 := by
  rw [signersVisible_eq]
  split
  · exact listVisible_cacheStep s ids
  · exact .refl s

theorem signOut_cacheStep {s a : State} (f : Faults) (b : Blob) (h : CacheStep s a) :
    CacheStep s (signOut a f b).1 := by
  unfold signOut
  split <;> exact h.of_eq rfl rfl

theorem CacheStep.ite {s : State} {c : Prop} [Decidable c] {a b : State × Out} (ha : CacheStep s a.1)
    (hb : CacheStep s b.1) : CacheStep s (if c then a else b).1 := by
  split <;> assumption

/-- the listing operations go through `filter` (which shrinks) and `listVisible` /
    `signersVisible`, `remove` through `Server.remove` (which shrinks), `removeAll` empties the
    cache; no other operation touches mode or cache -/
theorem step_cacheStep (s : State) (now : Nat) (f : Faults) (op : Op) : CacheStep s (step s now f op).1 := by
  have refl := CacheStep.refl s
  have hfil := (filter_shrinks s now f).cacheStep
  rcases hf : filter s now f with ⟨s', r⟩
  rw [hf] at hfil
  cases op with
  | list =>
    simp only [step, hf]
    refine .ite refl ?_
    cases r with
    | none => exact hfil
    | some keys => exact hfil.trans (listVisible_cacheStep s' keys)
  | signers =>
    simp only [step, hf]
    refine .ite refl ?_
    cases r with
    | none => exact hfil
    | some keys =>
      dsimp only
      split
      · exact hfil.of_eq rfl rfl
      · rename_i u1 ids _
        exact .trans (b := { s' with u := u1 }) (hfil.of_eq rfl rfl) (signersVisible_cacheStep _ ids)
  | sign b =>
    simp only [step, hf]
    refine .ite refl ?_
    cases r with
    | none => exact hfil
    | some keys =>
      cases b with
      | key k => exact signOut_cacheStep f _ hfil
      | cert c => exact .ite (signOut_cacheStep f _ hfil) (.ite hfil (signOut_cacheStep f _ hfil))
  | remove b =>
    cases hl : s.locked with
    | true =>
      simp only [step, hl, ↓reduceIte]
      exact refl
    | false =>
      rw [step_remove s now f b hl]
      exact (removeCore_shrinks s f b).cacheStep
  | removeAll =>
    simp only [step]
    refine .ite refl ?_
    split <;> exact ⟨rfl, by simp⟩
  | addHardCert _ _ =>
    -- not with the last group: `repeat' split` would go on into the label
    simp only [step]
    refine .ite refl ?_
    split
    · exact refl
    · refine .ite refl ?_
      split
      · exact refl.of_eq rfl rfl
      · exact .ite (refl.of_eq rfl rfl) (refl.of_eq rfl rfl)
  | close =>
    simp only [step]
    exact .ite refl (.ite refl (refl.of_eq rfl rfl))
  | add _ | lock _ | unlock _ | uAdd _ | uRemove _ | uRemoveAll | forward _ =>
    -- every branch returns `s` with at most `u` or `locked` replaced
    simp only [step]
    repeat' split
    all_goals exact refl.of_eq rfl rfl

end Ysshra.Shim

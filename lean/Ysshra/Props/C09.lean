import Ysshra.Lemmas.ShimVisible
/-
C09 — no-upstream mode hides the underlying agent's YSSHCA certificates, nothing else.
"Decodes as a YSSHCA KeyID" is `Cert.ysshca`, i.e. `keyid.Unmarshal` succeeds (C05 says when).
-/
namespace Ysshra
namespace C09
open Shim

/-- the cache is empty with the mode off and only ever holds YSSHCA certificates -/
structure Inv (s : State) : Prop where
  off : s.noUp = false → s.cache = []
  ys : ∀ c ∈ s.cache, c.ysshca = true

theorem Inv.step {s s' : State} (h : CacheStep s s') (hi : Inv s) : Inv s' := by
  constructor
  · intro hn
    rw [h.noUp] at hn
    refine List.eq_nil_iff_forall_not_mem.2 fun c hc => ?_
    rcases h.cache c hc with h | h
    · simp [hi.off hn] at h
    · simp [hn] at h
  · exact fun c hc => (h.cache c hc).elim (hi.ys c) (·.2)

/-- In no-upstream mode, no certificate listed from the underlying agent decodes as a YSSHCA
    KeyID — whether it was cached at start-up or shows up later. -/
theorem c09_list_hidden (s : State) (keys : List Ident) (hn : s.noUp = true) :
    ∀ id ∈ (listVisible s keys).2, ∀ c, id.blob = .cert c → c.ysshca = false := by
  intro id hid c hc
  rw [listVisible_out, List.mem_filterMap] at hid
  obtain ⟨id0, -, h⟩ := hid
  have hh : hidden s c = false := (shown_isSome s id0).1 (by rw [h]; rfl) c (shown_blob h ▸ hc)
  simp only [hidden, hn, Bool.or_eq_false_iff] at hh
  exact hh.2

/-- The signer listing applies the same rule: in no-upstream mode no signer from the underlying
    agent is a YSSHCA certificate. -/
theorem c09_signers_hidden (s : State) (ids : List Ident) (hn : s.noUp = true) :
    ∀ b ∈ (signersVisible s ids).2, ∀ c, b = .cert c → c.ysshca = false := by
  rw [signersVisible_eq, hn]
  intro b hb c hc
  obtain ⟨id, hid, rfl⟩ := List.mem_map.1 hb
  exact c09_list_hidden s ids hn id hid c hc

/-- Plain keys and certificates with other KeyIDs held by the underlying agent are all listed
    (certificates relabelled, blobs unchanged), in every mode, as long as the cache holds only
    YSSHCA certificates. -/
theorem c09_rest_visible (s : State) (keys : List Ident) (hys : ∀ c ∈ s.cache, c.ysshca = true)
    (id : Ident) (hid : id ∈ keys)
    (hvis : ∀ c, id.blob = .cert c → c.ysshca = false) :
    ∃ id' ∈ (listVisible s keys).2, id'.blob = id.blob := by
  simp only [listVisible_out, List.mem_filterMap]
  have hs : (shown s id).isSome = true := by
    refine (shown_isSome s id).2 fun c hb => ?_
    have hy := hvis c hb
    have hx : s.cache.contains c = false := by
      cases hx : s.cache.contains c
      · rfl
      · rw [hys c (by simpa using hx)] at hy
        cases hy
    simp only [hidden, hx, hy, Bool.and_false, Bool.or_false]
  obtain ⟨id', h'⟩ := Option.isSome_iff_exists.1 hs
  exact ⟨id', ⟨id, hid, h'⟩, shown_blob h'⟩

/-- With the mode off nothing is hidden: every underlying identity is listed. -/
theorem c09_mode_off (s : State) (keys : List Ident) (hn : s.noUp = false) (hc : s.cache = []) :
    (listVisible s keys).2.map (·.blob) = keys.map (·.blob) := by
  rw [listVisible_out, List.map_filterMap, ← List.filterMap_eq_map]
  congr 1
  funext id
  unfold shown
  cases hb : id.blob with
  | key k => rfl
  | cert c => simp [hidden, hn, hc, hb]

/-- A signing request naming a hidden certificate is refused as key-not-found — unless the same
    certificate is an in-memory hardware certificate. -/
theorem c09_sign_hidden (s : State) (now : Nat) (f : Faults) (c : Cert)
    (hl : s.locked = false) (hn : s.noUp = true) (hy : c.ysshca = true)
    (hf : ∃ keys, (filter s now f).2 = some keys) (hm : hasCert (filter s now f).1 c = false) :
    (step s now f (.sign (.cert c))).2 = .signed .notFound := by
  obtain ⟨keys, hk⟩ := hf
  have hn' : (filter s now f).1.noUp = true := by
    rw [(filter_shrinks s now f).noUp]
    exact hn
  rw [step_sign_cert s now f c hl hk, hm, hy, hn']
  rfl

/-- Hidden certificates can still be removed: `remove` reaches the underlying agent and drops
    the cache entry. -/
theorem c09_remove_hidden (s : State) (f : Faults) (c : Cert)
    (hok : (s.u.remove f (.cert c)).2 = true) (hm : hasCert s c = false) (hn : s.noUp = true) :
    (removeCore s f (.cert c)).2 = true ∧ c ∉ (removeCore s f (.cert c)).1.cache ∧
    (removeCore s f (.cert c)).1.u = (s.u.remove f (.cert c)).1 := by
  rw [removeCore_eq, hok]
  simp [dropCache_eq, hn]

/-- The invariant holds at construction in both modes … -/
theorem c09_inv_new (noUp : Bool) (u : UAgent) (f : Faults) (s : State) (h : Shim.new noUp u f = some s) : Inv s := by
  unfold Shim.new at h
  cases noUp with
  | false =>
    simp at h
    subst h
    exact ⟨fun _ => rfl, by simp⟩
  | true =>
    simp only [Bool.not_true, Bool.false_eq_true, ↓reduceIte] at h
    rcases hl : u.list f with ⟨u1, _ | ids⟩
    · rw [hl] at h
      cases h
    · rw [hl] at h
      simp only [Option.some.injEq] at h
      subst h
      refine ⟨nofun, fun c hc => ?_⟩
      obtain ⟨id, -, hid⟩ := List.mem_filterMap.1 hc
      split at hid
      · split at hid
        · rename_i hy
          cases hid
          exact hy
        · cases hid
      · cases hid

/-- … and every operation preserves it, at any time and under any faults: the cache stays empty
    with the mode off and holds only YSSHCA certificates with the mode on. -/
theorem c09_inv_step (s : State) (now : Nat) (f : Faults) (op : Op) (hi : Inv s) : Inv (step s now f op).1 :=
  hi.step (step_cacheStep s now f op)

/-- a history: operations with their times and fault sets -/
def runHist (s : State) : List (Op × Nat × Faults) → State
  | [] => s
  | (op, now, f) :: r => runHist (step s now f op).1 r

theorem runHist_inv (s : State) (hi : Inv s) (hist : List (Op × Nat × Faults)) : Inv (runHist s hist) := by
  induction hist generalizing s with
  | nil => exact hi
  | cons x r ih =>
    obtain ⟨op, now, f⟩ := x
    exact ih _ (c09_inv_step s now f op hi)

/-- In every reachable state — any mode, any initial underlying agent, any history with any
    times and faults — the cache is empty when the mode is off (so nothing is hidden), and holds
    only certificates that decode as YSSHCA KeyIDs when it is on (so nothing else is hidden). -/
theorem c09_reachable (noUp : Bool) (u : UAgent) (f0 : Faults) (s0 : State)
    (h : Shim.new noUp u f0 = some s0) (hist : List (Op × Nat × Faults)) : Inv (runHist s0 hist) :=
  runHist_inv s0 (c09_inv_new noUp u f0 s0 h) hist

def exCert : Cert := ⟨1, 1, 0, 2 ^ 64 - 1, true, some [0x54]⟩
def exU : UAgent := ⟨[⟨.key 1, []⟩, ⟨.cert exCert, []⟩], false, [], false⟩

/-- Non-vacuity: a YSSHCA certificate in the underlying agent is hidden in no-upstream mode and
    listed with the mode off. -/
example : (Shim.new true exU noFaults).map (fun s => (step s 1000 noFaults .list).2) =
    some (.listing [⟨.key 1, []⟩]) := by decide
example : (Shim.new false exU noFaults).map (fun s => (step s 1000 noFaults .list).2) =
    some (.listing [⟨.key 1, []⟩, ⟨.cert exCert, [0x54]⟩]) := by decide

end C09
end Ysshra

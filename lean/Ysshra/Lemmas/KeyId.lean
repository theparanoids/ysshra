import Ysshra.Model.KeyId
import Ysshra.Lemmas.Json
namespace Ysshra
namespace KeyID

/-! The tag look-ups as named facts: with them in its list, the `simp only` of `decodeStruct_toJ` never
compares character lists itself. -/

theorem idx0 : fieldIndex tags c!"prins" = some 0 := by decide
theorem idx1 : fieldIndex tags c!"transID" = some 1 := by decide
theorem idx2 : fieldIndex tags c!"reqUser" = some 2 := by decide
theorem idx3 : fieldIndex tags c!"reqIP" = some 3 := by decide
theorem idx4 : fieldIndex tags c!"reqHost" = some 4 := by decide
theorem idx5 : fieldIndex tags c!"isFirefighter" = some 5 := by decide
theorem idx6 : fieldIndex tags c!"isHWKey" = some 6 := by decide
theorem idx7 : fieldIndex tags c!"isHeadless" = some 7 := by decide
theorem idx8 : fieldIndex tags c!"isNonce" = some 8 := by decide
theorem idx9 : fieldIndex tags c!"usage" = some 9 := by decide
theorem idx10 : fieldIndex tags c!"touchPolicy" = some 10 := by decide
theorem idx11 : fieldIndex tags c!"ver" = some 11 := by decide

theorem sane_iff (k : KeyID) : sane k = true ↔ k.consistent := by
  simp [sane, saneHeadless, saneNonce, consistent, Decidable.imp_iff_not_or]

/-- the codec alone round-trips, whatever the sanity checkers say of `k` -/
theorem decodeStruct_toJ (k : KeyID) (hwf : k.wf) : decodeStruct (some (toJ k)) = some k := by
  obtain ⟨prins, tid, ru, rip, rh, ff, hw, hl, nn, us, tp, ver⟩ := k
  obtain ⟨hu1, hu2, ht1, ht2, hver⟩ := hwf
  simp only [decodeStruct, toJ, decodeMembers, idx0, idx1, idx2, idx3, idx4, idx5, idx6, idx7, idx8, idx9,
    idx10, idx11, setField, decStr, decBool, decUint, decInt_ofInt ⟨hu1, hu2⟩,
    decInt_ofInt ⟨ht1, ht2⟩, JNum.asUint_ofNat _ hver, Option.map_some]
  cases prins with
  | none => rfl
  | some ps =>
    simp only [decStrSlice_map_str]
    rfl

theorem decodeToMapKeys_toJ (k : KeyID) : decodeToMapKeys (some (toJ k)) = some tags := by
  unfold decodeToMapKeys toJ
  cases k.Principals <;>
    simp [anyFailsMembers, JVal.anyFails, JNum.ofInt, tags, anyFailsList_map_str]

theorem decodeToMapKeys_some {t : Option JVal} {keys : List Str} (h : decodeToMapKeys t = some keys) :
    (t = some .null ∧ keys = []) ∨ ∃ ms, t = some (.obj ms) ∧ keys = ms.map (·.1) := by
  unfold decodeToMapKeys at h
  split at h
  · split at h
    · cases h
    · exact .inr ⟨_, rfl, (Option.some.inj h).symm⟩
  · exact .inl ⟨rfl, (Option.some.inj h).symm⟩
  · cases h

theorem marshal_eq_ok_iff {k : KeyID} {j : JVal} :
    marshal k = .ok j ↔ k.Version = 1 ∧ sane k = true ∧ j = toJ k := by
  unfold marshal supported
  by_cases hv : k.Version = 1
  · cases hs : sane k <;> simp [hv, eq_comm]
  · simp [hv]

theorem unmarshal_ok_iff {t : Option JVal} {k : KeyID} :
    unmarshal t = .ok k ↔
      decodeStruct t = some k ∧ k.Version = 1 ∧ sane k = true ∧
      ∃ keys, decodeToMapKeys t = some keys ∧ ∀ r ∈ requiredV1, r ∈ keys := by
  unfold unmarshal requiredKeys supported
  cases decodeStruct t with
  | none => simp
  | some k' =>
    by_cases hv : k'.Version = 1
    · cases decodeToMapKeys t with
      | none => simp [hv]
      | some keys =>
        have hall : (requiredV1.all fun r => keys.contains r) = true ↔ ∀ r ∈ requiredV1, r ∈ keys := by
          simp
        simp only [hv, ↓reduceIte, Option.some.injEq, exists_eq_left', ← hall]
        cases requiredV1.all fun r => keys.contains r
        · simp
        · cases hs : sane k'
          · simp
            rintro rfl _
            exact hs
          · simp
            rintro rfl
            exact ⟨hv, hs⟩
    · simp only [hv, ↓reduceIte, Option.some.injEq, reduceCtorEq, false_iff]
      rintro ⟨rfl, h, _⟩
      exact hv h

end KeyID
end Ysshra

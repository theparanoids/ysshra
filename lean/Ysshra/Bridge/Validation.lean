import Ysshra.Gen.Validation
/-
Bridge for sshutils/cert/validation.go: the function regenerated from the source equals the
model's validity test for every pair of 64-bit bounds and every clock value (`now.Unix()` of a
time at or after the epoch; the model's clock is a natural number).
-/
namespace Ysshra.Bridge.Validation
open Ysshra.Shim

theorem i64_small (n : Nat) (h : n < 2 ^ 63) : Gen.Validation.i64 n = (n : Int) := by
  unfold Gen.Validation.i64
  have h1 : n % 2 ^ 64 = n := Nat.mod_eq_of_lt (by omega)
  rw [h1]; simp [h]

theorem i64_clamp (n : Nat) :
    Gen.Validation.i64 (if decide (n > Gen.Validation.maxInt64U) then Gen.Validation.maxInt64U else n) =
      ((min n Gen.Validation.maxInt64U : Nat) : Int) := by
  have hM : Gen.Validation.maxInt64U < 2 ^ 63 := by unfold Gen.Validation.maxInt64U; omega
  rw [Nat.min_def]
  by_cases h : n > Gen.Validation.maxInt64U
  · rw [if_pos (by simpa using h), if_neg (by omega), i64_small _ hM]
  · rw [if_neg (by simpa using h), if_pos (by omega), i64_small _ (by omega)]

theorem max_same : maxInt64 = Gen.Validation.maxInt64U := rfl

/-- `ValidateSSHCertTime` is `validAt`: for all bounds and every clock second. -/
theorem validate_bridge (c : Cert) (now : Nat) :
    Gen.Validation.validate c.validAfter c.validBefore (now : Int) = validAt c now := by
  unfold Gen.Validation.validate validAt
  -- with the clamped bounds read back as naturals the comparisons are between casts
  simp only [i64_clamp, max_same, gt_iff_lt, Int.ofNat_lt]

end Ysshra.Bridge.Validation

import Ysshra.Gen.SnapKeyId
/-
Pinned snapshot of Gen.SnapKeyId (see extract/snap.go): the regenerated statements of the source files
equal, declaration by declaration, what the hand-written models and harnesses were written against.
`by rfl` and not the term `rfl`: the tactic compares the two literals directly and is half as dear to check.
-/
namespace Ysshra.Bridge.SnapKeyId
open Ysshra

theorem keyid_keyid_pinned : Gen.SnapKeyId.keyid_keyid = ([
  (c!"const", [c!"DefaultVersion = 1", c!"MsgUnsupportedVersion = \"unsupported Key ID version: %d\""]),
  (c!"type", [c!"TouchPolicy int"]),
  (c!"const", [c!"DefaultTouch TouchPolicy = iota", c!"NeverTouch", c!"AlwaysTouch", c!"CachedTouch"]),
  (c!"type", [c!"Usage int"]),
  (c!"const", [c!"AllUsage Usage = iota", c!"SSHOnlyUsage"]),
  (c!"var", [c!"policies = map[TouchPolicy]string{ DefaultTouch: \"default\", NeverTouch: \"never\", AlwaysTouch: \"always\", CachedTouch: \"cached\", }"]),
  (c!"(TouchPolicy).String func() string", [c!"return policies[policy]"]),
  (c!"var", [c!"requiredKeysByVersion = map[uint16][]string{ 1: {\"prins\", \"transID\", \"reqUser\", \"reqIP\", \"reqHost\", \"isFirefighter\", \"isHWKey\", \"isHeadless\", \"isNonce\", \"touchPolicy\", \"ver\"}, }"]),
  (c!"var", [c!"sanityCheckerByVersion = map[uint16]func(*KeyID) error{ 1: func(id *KeyID) error { err := sanityCheckerHeadless(id) if err != nil { return err } return sanityCheckerNonce(id) }, }"]),
  (c!"type", [c!"KeyID struct { Principals []string `json:\"prins\"` TransID string `json:\"transID\"` ReqUser string `json:\"reqUser\"` ReqIP string `json:\"reqIP\"` ReqHost string `json:\"reqHost\"` IsFirefighter bool `json:\"isFirefighter\"` IsHWKey bool `json:\"isHWKey\"` IsHeadless bool `json:\"isHeadless\"` IsNonce bool `json:\"isNonce\"` Usage `json:\"usage\"` TouchPolicy `json:\"touchPolicy\"` Version uint16 `json:\"ver\"` }"]),
  (c!"New func() *KeyID", [c!"return &KeyID{ Version: DefaultVersion, }"]),
  (c!"(*KeyID).Marshal func() (string, error)", [c!"sanityChecker, ok := sanityCheckerByVersion[kid.Version]", c!"if !ok { return \"\", fmt.Errorf(MsgUnsupportedVersion, kid.Version) }", c!"if err := sanityChecker(kid); err != nil { return \"\", err }", c!"kidBytes, err := json.Marshal(kid)", c!"if err != nil { return \"\", fmt.Errorf(\"failed to marshal keyid string: %v\", err) }", c!"return string(kidBytes), nil"]),
  (c!"Unmarshal func(kidStr string) (*KeyID, error)", [c!"kid := &KeyID{}", c!"kidBytes := []byte(kidStr)", c!"err := json.Unmarshal(kidBytes, kid)", c!"if err != nil { return nil, fmt.Errorf(\"fail to unmarshal keyid string: %v\", err) }", c!"requiredKeys, ok := requiredKeysByVersion[kid.Version]", c!"if !ok { return nil, fmt.Errorf(MsgUnsupportedVersion, kid.Version) }", c!"m := make(map[string]interface{})", c!"err = json.Unmarshal(kidBytes, &m)", c!"if err != nil { return nil, fmt.Errorf(\"failed to unmarshal keyid string to map: %v\", err) }", c!"for _, key := range requiredKeys { if _, ok := m[key]; !ok { return nil, fmt.Errorf(\"missing key in keyid string: %s\", key) } }", c!"sanityChecker, ok := sanityCheckerByVersion[kid.Version]", c!"if !ok { return nil, fmt.Errorf(MsgUnsupportedVersion, kid.Version) }", c!"if err := sanityChecker(kid); err != nil { return nil, err }", c!"return kid, nil"]),
  (c!"Clone func(k *KeyID) *KeyID", [c!"kid := *k", c!"kid.Principals = make([]string, len(k.Principals))", c!"copy(kid.Principals, k.Principals)", c!"return &kid"]),
  (c!"(*KeyID).SetHumanUser func()", [c!"kid.IsHeadless = false"]),
  (c!"(*KeyID).GetProperty func(name string) string", [c!"switch name { case \"touchPolicy\": return fmt.Sprintf(\"%d\", kid.TouchPolicy) case \"prins\": return fmt.Sprintf(\"%v\", kid.Principals) case \"headless\": return fmt.Sprintf(\"%v\", kid.IsHeadless) default: return \"\" }"]),
  (c!"sanityCheckerHeadless func(k *KeyID) error", [c!"if !k.IsHeadless { return nil }", c!"if k.IsHWKey { return fmt.Errorf(\"conflict: IsHeadless and IsHWKey are both true\") }", c!"if k.IsFirefighter { return fmt.Errorf(\"conflict: IsHeadless and IsFireFighter are both true\") }", c!"if k.TouchPolicy != NeverTouch { return fmt.Errorf(\"conflict: IsHeadless is true and TouchPolicy is not NeverTouch\") }", c!"return nil"]),
  (c!"sanityCheckerNonce func(k *KeyID) error", [c!"if !k.IsNonce { return nil }", c!"if k.IsFirefighter { return fmt.Errorf(\"conflict: IsNonce and IsFireFighter are both true\") }", c!"if k.IsHeadless { return fmt.Errorf(\"conflict: IsNonce and IsHeadless are both true\") }", c!"if k.TouchPolicy != NeverTouch { return fmt.Errorf(\"conflict: IsNonce is true and TouchPolicy is not NeverTouch\") }", c!"return nil"])
] : List (Str × List Str)) := by rfl

end Ysshra.Bridge.SnapKeyId

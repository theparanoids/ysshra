import Ysshra.Model.Crypki
/-
C17, back-off clause: for every attempt number the delay lies within zero and the configured
maximum enlarged by the jitter factor — over ℚ, for every configuration whose base delay does
not exceed its maximum, multiplier at least 1 and jitter in [0, 1].
-/
namespace Ysshra
namespace C17
open Crypki

theorem c17_backoff_bounds (c : BackoffCfg) (attempt : Nat) (r : Rat)
    (hb0 : 0 ≤ c.base) (hbm : c.base ≤ c.max) (hm : 1 ≤ c.mult) (hj0 : 0 ≤ c.jitter) (hj1 : c.jitter ≤ 1)
    (hr0 : 0 ≤ r) (hr1 : r < 1) :
    0 ≤ backoff c attempt r ∧ backoff c attempt r ≤ c.max * (1 + c.jitter) := by
  have hmax : 0 ≤ c.max := Rat.le_trans hb0 hbm
  unfold backoff
  split
  · have := Rat.mul_nonneg hmax hj0
    exact ⟨hb0, by grind⟩
  · -- the capped power lies in [0, max], the jitter factor in [0, 1 + jitter]; the products that
    -- make the latter linear are `jitter * r ∈ [0, jitter]`
    have hpow : 0 ≤ c.base * c.mult ^ attempt :=
      Rat.mul_nonneg hb0 (Rat.pow_nonneg (Rat.le_trans (by decide) hm))
    have hx0 : 0 ≤ min (c.base * c.mult ^ attempt) c.max := Std.le_min_iff.2 ⟨hpow, hmax⟩
    have hx1 : min (c.base * c.mult ^ attempt) c.max ≤ c.max := Std.min_le_right
    have hjr0 : 0 ≤ c.jitter * r := Rat.mul_nonneg hj0 hr0
    have hjr1 : c.jitter * r ≤ c.jitter * 1 := Rat.mul_le_mul_of_nonneg_left (Rat.le_of_lt hr1) hj0
    have hf0 : 0 ≤ 1 + c.jitter * (r * 2 - 1) := by grind
    have hf1 : 1 + c.jitter * (r * 2 - 1) ≤ 1 + c.jitter := by grind
    exact ⟨Rat.mul_nonneg hx0 hf0,
      Rat.le_trans (Rat.mul_le_mul_of_nonneg_right hx1 hf0) (Rat.mul_le_mul_of_nonneg_left hf1 hmax)⟩

/-- Non-vacuity: the default configuration (2 s, ×3, 15 s, 0.2) meets the hypotheses. -/
example : let c : BackoffCfg := ⟨2, 3, 15, 1/5⟩
    0 ≤ c.base ∧ c.base ≤ c.max ∧ 1 ≤ c.mult ∧ 0 ≤ c.jitter ∧ c.jitter ≤ 1 := by
  intro c
  grind

end C17
end Ysshra

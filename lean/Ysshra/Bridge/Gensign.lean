import Ysshra.Gen.Gensign
/-
Bridge for gensign/, gensign/regular, agent/ssh and crypki/common.go: the statements of the functions
the `Gensign` model transliterates, the literals of `Generate`, labels and the default extension set,
as regenerated from the current source, equal what the model was written against.  The recursion
limit is raised because the list literals of the statements are long.
-/
set_option maxRecDepth 30000
namespace Ysshra.Bridge.Gensign

theorem errorTypes_bridge : Gen.Gensign.errorTypes = ([(c!"Unknown", 1), (c!"HandlerDisabled", 2), (c!"HandlerAuthN", 3), (c!"InvalidParams", 4), (c!"HandlerGenCSRErr", 5), (c!"HandlerConfErr", 6), (c!"AllAuthFailed", 7), (c!"SignerSignErr", 8), (c!"AgentOpCertErr", 9), (c!"Panic", 10)] : List (Str × Nat)) := by rfl

theorem runStmts_bridge : Gen.Gensign.runStmts = ([c!"defer func() { if r := recover(); r != nil { ExportPanicMetric(ctx, params, fmt.Sprintf(\"%v\", r)) err = NewError(Panic, \"\", fmt.Errorf(`unexpected crash: %q`, string(debug.Stack()))) } }()", c!"start := time.Now()", c!"var handler Handler", c!"for _, h := range handlers { err := h.Authenticate(params) if err == nil { handler = h break } log.Info().Err(err).Str(\"handler\", h.Name()).Msgf(\"authentication failed\") }", c!"if handler == nil { return NewErrWithMsg(AllAuthFailed, \"all authentications failed\") }", c!"csrAgentKeys, err := handler.Generate(params)", c!"if err != nil { return err }", c!"if len(csrAgentKeys) == 0 { return NewErrWithMsg(HandlerGenCSRErr, \"no csr generated\") }", c!"for _, agentKey := range csrAgentKeys { var ( certs []ssh.PublicKey comments []string ) for _, csr := range agentKey.CSRs() { cert, comment, err := signer.Sign(ctx, csr) if err != nil { return NewErr(SignerSignErr, fmt.Errorf(\"failed to sign CSR: %v\", err)) } certs = append(certs, cert...) comments = append(comments, comment...) } err = agentKey.AddCertsToAgent(certs, comments) if err != nil { return NewErr(AgentOpCertErr, fmt.Errorf(\"failed to add certificates into the agent: %v\", err)) } }", c!"log.Info().Stringer(logkey.TimeElapseField, time.Since(start)). Str(logkey.TransIDField, params.TransID). Str(logkey.HandlerField, handler.Name()). Msgf(\"gensign success\")", c!"return nil"] : List Str) := by rfl

theorem HandlerName_bridge : Gen.Gensign.HandlerName = (c!"paranoids.regular" : Str) := by rfl

theorem AuthenticateStmts_bridge : Gen.Gensign.AuthenticateStmts = ([c!"err := param.Validate()", c!"if err != nil { return gensign.NewError(gensign.InvalidParams, HandlerName, err) }", c!"if param.NamespacePolicy != common.NoNamespace { return gensign.NewErrorWithMsg(gensign.HandlerAuthN, HandlerName, fmt.Sprintf(\"want namespace policy %s, but got %s\", common.NoNamespace, param.NamespacePolicy)) }", c!"if param.Attrs.HardKey { return gensign.NewErrorWithMsg(gensign.HandlerAuthN, HandlerName, \"do not support hard key validation\") }", c!"if err := h.challengePubKey(param); err != nil { return gensign.NewError(gensign.HandlerAuthN, HandlerName, err) }", c!"return nil"] : List Str) := by rfl

theorem challengePubKeyStmts_bridge : Gen.Gensign.challengePubKeyStmts = ([c!"pubKeyBytes, err := getPubKeyBytes(h.conf.PubKeyDir, param.LogName)", c!"if err != nil { return fmt.Errorf(\"failed to read pubkey: %v\", err) }", c!"pubKey, _, _, _, err := ssh.ParseAuthorizedKey(pubKeyBytes)", c!"if err != nil { return fmt.Errorf(\"failed to parse pubkey: %v, pubkey: %q\", err, string(pubKeyBytes)) }", c!"data := make([]byte, 64)", c!"if _, err := rand.Read(data); err != nil { return fmt.Errorf(\"cannot generate random challenge: %v\", err) }", c!"sig, err := h.agent.Sign(pubKey, data)", c!"if err != nil { return fmt.Errorf(\"cannot sign the challenge: %v\", err) }", c!"return pubKey.Verify(data, sig)"] : List Str) := by rfl

theorem generateAgentKeyStmts_bridge : Gen.Gensign.generateAgentKeyStmts = ([c!"agentKeyOpt := agssh.DefaultKeyOpt", c!"agentKeyOpt.KeyRefreshFilter = keyFilter", c!"agentKeyOpt.PrivateKeyValiditySec = uint32(h.conf.CertValiditySec) + uint32(time.Hour.Seconds())", c!"agentKeyOpt.CertLabel = fmt.Sprintf(\"%s-%s\", HandlerName, \"cert\")", c!"agentKey, err := agssh.NewSSHAgentKeyWithOpt(h.agent, agentKeyOpt)", c!"if err != nil { return nil, err }", c!"return &csrAgentKey{ AgentKey: agentKey, }, nil"] : List Str) := by rfl

theorem lookupPubKeyFileStmts_bridge : Gen.Gensign.lookupPubKeyFileStmts = ([c!"pubKeyPath := path.Join(pubKeyDirPath, logName+\".pub\")", c!"if _, err := os.Stat(pubKeyPath); err != nil { pubKeyPath = path.Join(pubKeyDirPath, logName) }", c!"if _, err := os.Stat(pubKeyPath); os.IsNotExist(err) { return \"\", err }", c!"return pubKeyPath, nil"] : List Str) := by rfl

theorem getPubKeyBytesStmts_bridge : Gen.Gensign.getPubKeyBytesStmts = ([c!"pubKeyPath, err := lookupPubKeyFile(pubKeyDirPath, logName)", c!"if err != nil { return nil, err }", c!"return os.ReadFile(pubKeyPath)"] : List Str) := by rfl

theorem keyFilterStmts_bridge : Gen.Gensign.keyFilterStmts = ([c!"return strings.Contains(key.Comment, HandlerName)"] : List Str) := by rfl

theorem kidLiteral_bridge : Gen.Gensign.kidLiteral = ([(c!"Principals", c!"[]string{param.LogName}"), (c!"TransID", c!"param.TransID"), (c!"ReqUser", c!"param.ReqUser"), (c!"ReqIP", c!"param.ClientIP"), (c!"ReqHost", c!"param.ReqHost"), (c!"Version", c!"keyid.DefaultVersion"), (c!"IsFirefighter", c!"false"), (c!"IsHWKey", c!"false"), (c!"IsHeadless", c!"false"), (c!"IsNonce", c!"false"), (c!"Usage", c!"keyid.AllUsage"), (c!"TouchPolicy", c!"keyid.NeverTouch")] : List (Str × Str)) := by rfl

theorem csrLiteral_bridge : Gen.Gensign.csrLiteral = ([(c!"KeyMeta", c!"&proto.KeyMeta{Identifier: keyIdentifier}"), (c!"Extensions", c!"crypki.GetDefaultExtension()"), (c!"Validity", c!"h.certValiditySec"), (c!"Principals", c!"kid.Principals"), (c!"PublicKey", c!"string(ssh.MarshalAuthorizedKey(agentKey.PublicKey()))")] : List (Str × Str)) := by rfl

theorem keyIdentifierLookup_bridge : Gen.Gensign.keyIdentifierLookup = ([c!"keyIdentifier, ok := h.conf.KeyIdentifiers[param.Attrs.CAPubKeyAlgo]"] : List Str) := by rfl

theorem NewSSHAgentKeyWithOptStmts_bridge : Gen.Gensign.NewSSHAgentKeyWithOptStmts = ([c!"priv, pub, err := key.GenerateKeyPair(opt.PublicKeyAlgo)", c!"if err != nil { return nil, fmt.Errorf(\"failed to genreate key pair, err: %v\", err) }", c!"addedKey := ag.AddedKey{ PrivateKey: priv, LifetimeSecs: opt.PrivateKeyValiditySec, Comment: opt.PrivateKeyLabel, }", c!"if err := agent.Add(addedKey); err != nil { return nil, fmt.Errorf(\"failed to insert new private key to agent, err: %v\", err) }", c!"return &AgentKey{ agent: agent, pubKey: pub, addedKey: addedKey, opt: opt, }, nil"] : List Str) := by rfl

theorem AddCertsToAgentStmts_bridge : Gen.Gensign.AddCertsToAgentStmts = ([c!"if err := a.refreshKeys(); err != nil { return err }", c!"var err error", c!"addedKey := a.addedKey", c!"for i, cert := range certs { addedKey.Certificate, err = key.CastSSHPublicKeyToCertificate(cert) if addedKey.Certificate == nil || err != nil { continue } addedKey.Comment = a.opt.CertLabel if len(comments) > i && comments[i] != \"\" { a.addedKey.Comment += fmt.Sprintf(\"%s-%s\", a.addedKey.Comment, comments[i]) } if err := a.agent.Add(addedKey); err != nil { return err } }", c!"return nil"] : List Str) := by rfl

theorem refreshKeysStmts_bridge : Gen.Gensign.refreshKeysStmts = ([c!"keys, err := a.agent.List()", c!"if err != nil { return err }", c!"for _, k := range keys { if a.opt.KeyRefreshFilter(k) { if err := a.agent.Remove(k); err != nil { return err } } }", c!"return nil"] : List Str) := by rfl

theorem defaultPrivateKeyLabel_bridge : Gen.Gensign.defaultPrivateKeyLabel = (c!"private-key" : Str) := by rfl

theorem defaultCertLabel_bridge : Gen.Gensign.defaultCertLabel = (c!"certificate" : Str) := by rfl

theorem defaultExtension_bridge : Gen.Gensign.defaultExtension = ([c!"permit-X11-forwarding=", c!"permit-agent-forwarding=", c!"permit-port-forwarding=", c!"permit-pty=", c!"permit-user-rc="] : List Str) := by rfl

/-- the model's constants are the source's -/
theorem consts_bridge :
    Gen.Gensign.HandlerName.map (fun c => c.toNat.toUInt8) = Gensign.handlerName ∧
    Gen.Gensign.defaultPrivateKeyLabel.map (fun c => c.toNat.toUInt8) = Gensign.privateKeyLabel ∧
    (Gen.Gensign.HandlerName ++ c!"-cert").map (fun c => c.toNat.toUInt8) = Gensign.certLabel ∧
    Gen.Gensign.defaultExtension = Gensign.defaultExtensions.map (· ++ c!"=") := by decide

end Ysshra.Bridge.Gensign

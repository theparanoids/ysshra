import Ysshra.Gen.Message
/-
Bridge for message/sanity.go and the format switch of message/marshal.go.
-/
namespace Ysshra.Bridge.Message
open Ysshra.Message

/-- the regenerated required-field check is the model's `sane`, for every attribute set -/
theorem sanityCheck_bridge (a : AttrsJ) : Gen.Message.sanityCheck a = sane (·.isEmpty) a := by
  obtain ⟨ifv, user, host, ver, ca, sa, hk, t2s, ts, exts⟩ := a
  cases ver <;> cases user <;> cases host <;> rfl

theorem legacyBelow_bridge : Gen.Message.legacyBelow = 7 := rfl

end Ysshra.Bridge.Message

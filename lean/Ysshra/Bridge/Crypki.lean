import Ysshra.Gen.Crypki
/-
Bridge for crypki/signer.go, tlsutils/config.go, sshutils/key/parse.go and internal/backoff:
the statements of the loops the model transliterates (as repaired for F8 / F9a) and the TLS
configuration record.
-/
namespace Ysshra.Bridge.Crypki

theorem sign_bridge : Gen.Crypki.signStmts =
    [c!"if len(s.endpoints) == 0 { return nil, nil, errors.New(\"no crypki endpoint is configured\") }",
     c!"for _, endpoint := range s.endpoints { certs, comments, err = s.postUserSSHCertificate(ctx, request, endpoint) if err == nil { return } log.Warn().Err(err).Msgf(\"failed to post request to endpoint %q\", endpoint) }",
     c!"return"] := by rfl

theorem keysFromBytes_bridge : Gen.Crypki.keysFromBytesStmts =
    [c!"var key ssh.PublicKey", c!"var comment string",
     c!"for len(data) > 0 { key, comment, _, data, err = ssh.ParseAuthorizedKey(data) if key != nil { keys = append(keys, key) comments = append(comments, comment) } }",
     c!"if len(keys) == 0 { return nil, nil, fmt.Errorf(\"keys not found, got err: %v\", err) }",
     c!"return keys, comments, nil"] := by rfl

theorem endpoints_in_order : Gen.Crypki.endpointLoop =
    c!"for i, endpoint := range conf.CrypkiEndpoints { endpoints[i] = fmt.Sprintf(\"%s:%d\", endpoint, conf.CrypkiPort) }" := by rfl

theorem backoff_bridge : Gen.Crypki.backoffStmts =
    [c!"if attempt == 0 || bc.BaseDelay == 0 { return bc.BaseDelay }",
     c!"backoff, max := float64(bc.BaseDelay), float64(bc.MaxDelay)",
     c!"backoff *= math.Pow(bc.Multiplier, float64(attempt))",
     c!"backoff = math.Min(backoff, max)",
     c!"r := rand.New(rand.NewSource(time.Now().UnixNano()))",
     c!"backoff *= 1 + bc.Jitter*(r.Float64()*2-1)",
     c!"return time.Duration(backoff)"] := by rfl

theorem defaultBackoff_bridge : Gen.Crypki.defaultBackoff =
    [(c!"BaseDelay", c!"2.0 * time.Second"), (c!"Multiplier", c!"3.0"), (c!"MaxDelay", c!"15.0 * time.Second"),
     (c!"Jitter", c!"0.2")] := by rfl

/-- The RA's TLS client configuration, as regenerated from the literal and the pool construction:
    verification is never switched off or replaced, no system pool, at least TLS 1.2, and a client
    certificate is presented. -/
theorem tls_bridge :
    Gen.Crypki.tlsCfg.insecureSkipVerify = false ∧ Gen.Crypki.tlsCfg.customVerifier = false ∧
    Gen.Crypki.tlsCfg.rootsFromConfiguredFilesOnly = true ∧ Gen.Crypki.tlsCfg.clientCertGetter = true ∧
    Crypki.tls12 ≤ Gen.Crypki.tlsCfg.effectiveMin := by decide

/-- the gRPC connection uses exactly these credentials, nothing insecure -/
theorem dial_bridge :
    Gen.Crypki.credentialsCall = c!"credentials.NewTLS(tlsCfg)" ∧
    Gen.Crypki.tlsConfigCall = c!"tlsutils.TLSClientConfiguration(conf.TLSClientCertFile, conf.TLSClientKeyFile, conf.TLSCACertFiles)" ∧
    Gen.Crypki.dialOptions.head? = some c!"grpc.WithTransportCredentials(clientCreds" ∧
    Gen.Crypki.dialOptions.all (fun o => !(c!"grpc.WithInsecure").isPrefixOf o) = true :=
  ⟨by rfl, by rfl, by rfl, by rfl⟩

end Ysshra.Bridge.Crypki

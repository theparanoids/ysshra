import Ysshra.Model.Locks
/-
The lock model by moves: a scheduling step either changes nothing or replaces one thread by its
successor under `Moves`, so an invariant of `run` is checked on the three moves (`run_induct`);
mutual exclusion is one (`excl_moves`).
-/
namespace Ysshra.Locks

/-- what `stepThread` can make of one thread -/
inductive Moves (s : Sys) : Thread → Thread → Prop
  | enter (m : Method) : canEnter s m = true → Moves s ⟨m, .waiting⟩ ⟨m, .running 0⟩
  | access (m : Method) (k : Nat) : k < m.accesses.length → Moves s ⟨m, .running k⟩ ⟨m, .running (k + 1)⟩
  | leave (m : Method) (k : Nat) : ¬ k < m.accesses.length → Moves s ⟨m, .running k⟩ ⟨m, .finished⟩

theorem stepThread_cases (s : Sys) (i : Nat) :
    stepThread s i = s ∨ ∃ t t', s[i]? = some t ∧ Moves s t t' ∧ stepThread s i = s.set i t' := by
  unfold stepThread
  cases hi : s[i]? with
  | none => exact .inl rfl
  | some t =>
    obtain ⟨m, ph⟩ := t
    cases ph with
    | finished => exact .inl rfl
    | waiting =>
      by_cases hc : canEnter s m = true
      · exact .inr ⟨_, _, rfl, .enter m hc, by simp [hc]⟩
      · exact .inl (by simp [hc])
    | running k =>
      by_cases hk : k < m.accesses.length
      · exact .inr ⟨_, _, rfl, .access m k hk, by simp [hk]⟩
      · exact .inr ⟨_, _, rfl, .leave m k hk, by simp [hk]⟩

theorem stepThread_of_moves {s : Sys} {i : Nat} {t t' : Thread} (hi : s[i]? = some t) (h : Moves s t t') :
    stepThread s i = s.set i t' := by
  cases h with
  | enter m hc => simp [stepThread, hi, hc]
  | access m k hk => simp [stepThread, hi, hk]
  | leave m k hk => simp [stepThread, hi, hk]

theorem run_induct (P : Sys → Prop) (hstep : ∀ s i t t', P s → s[i]? = some t → Moves s t t' → P (s.set i t'))
    (s : Sys) (sched : List Nat) (h : P s) : P (run s sched) := by
  induction sched generalizing s with
  | nil => exact h
  | cons i r ih =>
    apply ih
    rcases stepThread_cases s i with e | ⟨t, t', hi, hm, e⟩
    · rw [e]
      exact h
    · rw [e]
      exact hstep s i t t' h hi hm

theorem Thread.holdsExcl_iff {t : Thread} :
    t.holdsExcl = true ↔ t.inside = true ∧ t.method.mode = some .excl := by
  simp [Thread.holdsExcl]

theorem Thread.holdsAny_iff {t : Thread} :
    t.holdsAny = true ↔ t.inside = true ∧ t.method.mode.isSome = true := by
  rcases hm : t.method.mode with _ | _ | _ <;>
    simp [Thread.holdsAny, Thread.holdsExcl, Thread.holdsShared, hm]

theorem Thread.holdsExcl_eq_false_of_holdsAny {t : Thread} (h : t.holdsAny = false) : t.holdsExcl = false := by
  simp only [Thread.holdsAny, Bool.or_eq_false_iff] at h
  exact h.1

theorem Thread.holdsAny_eq_false_of_outside {t : Thread} (h : t.inside = false) : t.holdsAny = false := by
  simp [Thread.holdsAny, Thread.holdsExcl, Thread.holdsShared, h]

/-- what `canEnter` grants: nobody holds anything a lock taken in this mode excludes -/
theorem canEnter_spec {s : Sys} {m : Method} (hc : canEnter s m = true) {u : Thread} (hu : u ∈ s) :
    (m.mode = some .excl → u.holdsAny = false) ∧ (m.mode.isSome = true → u.holdsExcl = false) := by
  unfold canEnter at hc
  cases hm : m.mode with
  | none => simp
  | some md =>
    cases md with
    | excl =>
      simp only [hm, List.all_eq_true, Bool.not_eq_true'] at hc
      exact ⟨fun _ => hc u hu, fun _ => Thread.holdsExcl_eq_false_of_holdsAny (hc u hu)⟩
    | shared =>
      simp only [hm, List.all_eq_true, Bool.not_eq_true'] at hc
      exact ⟨nofun, fun _ => hc u hu⟩

theorem canEnter_of_outside {s : Sys} (m : Method) (h : ∀ u ∈ s, u.inside = false) : canEnter s m = true := by
  have hA : ∀ u ∈ s, u.holdsAny = false := fun u hu => Thread.holdsAny_eq_false_of_outside (h u hu)
  unfold canEnter
  rcases m.mode with _ | _ | _
  · rfl
  · simpa using hA
  · simpa using fun u hu => Thread.holdsExcl_eq_false_of_holdsAny (hA u hu)

theorem excl_of_outside {s : Sys} (h : ∀ t ∈ s, t.inside = false) : Excl s := by
  intro i j ti tj hi _ _ hex
  have hout := Thread.holdsAny_eq_false_of_outside (h ti (List.mem_of_getElem? hi))
  rw [Thread.holdsExcl_eq_false_of_holdsAny hout] at hex
  cases hex

/-- replacing thread `i` keeps `Excl` when what the newcomer holds is compatible with what everyone else holds -/
theorem excl_set {s : Sys} {i : Nat} {t' : Thread} (h : Excl s)
    (hE : t'.holdsExcl = true → ∀ j u, j ≠ i → s[j]? = some u → u.holdsAny = false)
    (hA : t'.holdsAny = true → ∀ j u, j ≠ i → s[j]? = some u → u.holdsExcl = false) :
    Excl (s.set i t') := by
  intro a b ta tb ha hb hab hex
  by_cases hai : i = a
  · -- `a` is the new thread
    subst hai
    rw [List.getElem?_set_ne hab] at hb
    rw [List.getElem?_set, if_pos rfl] at ha
    split at ha <;> cases ha
    exact hE hex b tb (Ne.symm hab) hb
  rw [List.getElem?_set_ne hai] at ha
  by_cases hbi : i = b
  · -- `b` is the new thread
    subst hbi
    rw [List.getElem?_set, if_pos rfl] at hb
    split at hb <;> cases hb
    cases hx : t'.holdsAny with
    | false => rfl
    | true =>
      rw [hA hx a ta (Ne.symm hai) ha] at hex
      cases hex
  rw [List.getElem?_set_ne hbi] at hb
  exact h a b ta tb ha hb hab hex

theorem excl_moves (s : Sys) (i : Nat) (t t' : Thread) (h : Excl s) (hi : s[i]? = some t) (hm : Moves s t t') :
    Excl (s.set i t') := by
  cases hm with
  | enter m hc =>
    -- `canEnter` is what `excl_set` asks of the others
    refine excl_set h (fun hx j u _ hu => ?_) (fun hx j u _ hu => ?_)
    · exact (canEnter_spec hc (List.mem_of_getElem? hu)).1 (Thread.holdsExcl_iff.1 hx).2
    · exact (canEnter_spec hc (List.mem_of_getElem? hu)).2 (Thread.holdsAny_iff.1 hx).2
  | access m k hk =>
    -- the thread holds what it held
    refine excl_set h (fun hx j u hj hu => h i j _ u hi hu (Ne.symm hj) hx) (fun hx j u hj hu => ?_)
    cases hy : u.holdsExcl with
    | false => rfl
    | true => exact absurd ((h j i u _ hu hi hj hy).symm.trans hx) Bool.false_ne_true
  | leave m k hk =>
    have hout : (⟨m, .finished⟩ : Thread).holdsAny = false := Thread.holdsAny_eq_false_of_outside rfl
    exact excl_set h (fun hx => absurd hx (Bool.eq_false_iff.1 (Thread.holdsExcl_eq_false_of_holdsAny hout)))
      (fun hx => absurd hx (Bool.eq_false_iff.1 hout))

end Ysshra.Locks

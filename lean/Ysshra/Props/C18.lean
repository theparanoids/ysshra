import Ysshra.Bridge.Crypki
import Ysshra.Lemmas.Crypki
/-
C18 — the RA talks only to CA servers authenticated by the configured CA bundle.
Partial: that `crypto/tls` implements `clientAccepts` is the documented behaviour of the library,
exercised by real handshakes in the correspondence run, not proved.
-/
namespace Ysshra
namespace C18
open Crypki

/-- With the regenerated configuration, the client accepts a server exactly when the server offers
    TLS 1.2 or later, its certificate chains to a configured CA certificate and matches the
    endpoint name. -/
theorem c18_accepts_iff (s : Server) :
    clientAccepts Gen.Crypki.tlsCfg s = true ↔
      (tls12 ≤ s.maxVersion ∧ s.chainsToConfigured = true ∧ s.nameMatches = true) := by
  have h := Bridge.Crypki.tls_bridge
  -- `tls_bridge` says at least TLS 1.2; for the `↔` the regenerated minimum has to be TLS 1.2 itself
  have hmin : Gen.Crypki.tlsCfg.effectiveMin = tls12 := rfl
  rw [clientAccepts, h.1, h.2.1, hmin]
  simp only [Bool.or_self, Bool.false_eq_true, ↓reduceIte, Bool.and_eq_true, decide_eq_true_eq, and_assoc]

variable {E : Type}

/-- A signing call succeeds only through an endpoint whose server the client accepts (and that
    accepted the RA's client certificate): self-signed, foreign-CA, expired, wrongly named or
    TLS-1.1-only servers never produce the result. -/
theorem c18_only_trusted (cfg : TlsCfg) (server : E → Server) (reply : E → Reply) (eps : List E)
    (x : List Nat × List Bytes) (h : (sign (fun e => tlsReply cfg (server e) (reply e)) eps).1 = some x) :
    ∃ e ∈ eps, clientAccepts cfg (server e) = true ∧ (server e).acceptsClient = true ∧
      post (reply e) = some x := by
  rw [sign_eq_signLoop] at h
  rcases signLoop_spec (fun e => tlsReply cfg (server e) (reply e)) eps with
    ⟨pre, e, rest, y, rfl, _, hp, hl⟩ | ⟨_, hl⟩
  · rw [hl] at h
    cases h
    exact ⟨e, by simp, (post_tlsReply ..).1 hp⟩
  · rw [hl] at h
    cases h

/-- An impostor at any position is just a failed endpoint: a later genuine endpoint still serves
    the request. -/
theorem c18_impostor_skipped (cfg : TlsCfg) (server : E → Server) (reply : E → Reply)
    (impostors : List E) (good : E) (rest : List E) (x : List Nat × List Bytes)
    (himp : ∀ e ∈ impostors, clientAccepts cfg (server e) = false)
    (hgood : clientAccepts cfg (server good) = true ∧ (server good).acceptsClient = true)
    (hx : post (reply good) = some x) :
    (sign (fun e => tlsReply cfg (server e) (reply e)) (impostors ++ good :: rest)).1 = some x := by
  have hskip : ∀ e ∈ impostors, post (tlsReply cfg (server e) (reply e)) = none := fun e he => by
    simp [tlsReply, himp e he, post]
  rw [sign_eq_signLoop, signLoop_skip _ _ _ hskip, signLoop, (post_tlsReply ..).2 ⟨hgood.1, hgood.2, hx⟩]

end C18
end Ysshra

import Ysshra.Model.Pkcs1
import Ysshra.Spec.C06
/-
A byte string of length `k` passes the comparisons of `verifyPKCS1v15` for prefix `p` exactly when
it is the canonical encoded message `00 01 FF…FF 00 ‖ p ‖ d`.  A list is a concatenation iff its
`take`/`drop` pieces are the parts (`eq_append_iff`), which gives the comparisons for one prefix
(`decide_eq_canonEM`); how `verifyPKCS1v15` combines those of its two prefixes is a fact about
booleans (`ok_prefix_pad`), and `verifyEM_eq` puts the two together.
-/
namespace Ysshra.Pkcs1
open Ysshra Ysshra.Spec.C06

theorem canonEM_length (k : Nat) (p d : Bytes) (hk : p.length + d.length + 3 ≤ k) :
    (canonEM k p d).length = k := by
  simp [canonEM]; omega

theorem leftPad_length (input : Bytes) (size : Nat) : (leftPad input size).length = size := by
  simp [leftPad]
  omega

theorem eq_append_iff {α : Type} (l a b : List α) :
    l = a ++ b ↔ l.take a.length = a ∧ l.drop a.length = b := by
  constructor
  · intro h
    subst h
    simp
  · intro ⟨h1, h2⟩
    rw [← List.take_append_drop a.length l, h1, h2]

theorem eq_cons_iff {α : Type} (l : List α) (x : α) (b : List α) :
    l = x :: b ↔ l[0]? = some x ∧ l.drop 1 = b := by
  cases l <;> simp

/-- the offsets are variables because `verifyPKCS1v15` computes them from the right (`decide_eq_canonEM`) -/
theorem eq_parts_iff (em pad p d : Bytes) (i j : Nat) (hi : i = 2 + pad.length) (hj : j = i + 1 + p.length) :
    em = [0, 1] ++ pad ++ [0] ++ p ++ d ↔
      em[0]? = some 0 ∧ em[1]? = some 1 ∧ (em.drop 2).take pad.length = pad ∧ em[i]? = some 0 ∧
      (em.drop (i + 1)).take p.length = p ∧ em.drop j = d := by
  subst hi hj
  simp only [List.append_assoc, eq_append_iff, List.drop_drop, List.cons_append, List.nil_append, eq_cons_iff,
    List.getElem?_drop, Nat.add_zero]

theorem slice_eq {em : Bytes} {a n b : Nat} (h1 : a + n = b) (h2 : b ≤ em.length) :
    slice em a b = some ((em.drop a).take n) := by
  subst h1
  simp [slice, h2]

/-- the padding bytes that `for i := 2; i < k-t-1; i++` visits, whatever `t` is -/
theorem slice_pad {em : Bytes} {k : Nat} (t : Nat) (hlen : em.length = k) (h2 : 2 ≤ k) :
    slice em 2 (max 2 (k - t - 1)) = some ((em.drop 2).take (k - t - 3)) :=
  slice_eq (by omega) (by omega)

/-- the comparisons of `verifyPKCS1v15` for the prefix `p`, grouped as it groups them (`ok`, `prefixok`,
    the padding loop), decide whether `em` is the canonical message for `p` -/
theorem decide_eq_canonEM (k : Nat) (p d em : Bytes) (hlen : em.length = k) (hk : p.length + d.length + 3 ≤ k) :
    decide (em = canonEM k p d) =
      ((em[0]? == some 0 && em[1]? == some 1 && em.drop (k - d.length) == d) &&
       ((em.drop (k - (p.length + d.length))).take p.length == p && em[k - (p.length + d.length) - 1]? == some 0) &&
       ((em.drop 2).take (k - (p.length + d.length) - 3)).all (· == 0xff)) := by
  -- with `k` written as a sum, the offsets counted from the right become offsets from the left
  obtain ⟨n, rfl⟩ : ∃ n, k = n + 3 + (p.length + d.length) := ⟨k - (p.length + d.length) - 3, by omega⟩
  -- what `omega` proves comes first: it reads every hypothesis in scope
  have hl : ((em.drop 2).take n).length = n := by
    rw [List.length_take, List.length_drop]
    omega
  have e0 : n + 3 + (p.length + d.length) - p.length - d.length - 3 = n := by omega
  have e1 : n + 3 + (p.length + d.length) - (p.length + d.length) = n + 2 + 1 := Nat.add_sub_cancel ..
  have e2 : n + 3 + (p.length + d.length) - d.length = n + 2 + 1 + p.length := by rw [← Nat.add_assoc, Nat.add_sub_cancel]
  have e3 : n + 2 + 1 - 3 = n := rfl
  rw [Bool.eq_iff_iff, decide_eq_true_iff, canonEM, e0,
    eq_parts_iff em _ p d (n + 2) _ (by rw [List.length_replicate, Nat.add_comm]) rfl,
    List.length_replicate, List.eq_replicate_iff, hl, e1, e2, e3, Nat.add_sub_cancel]
  simp only [Bool.and_eq_true, beq_iff_eq, List.all_eq_true, true_and]
  constructor
  · rintro ⟨h0, h1, hpad, hz, hp, hd⟩
    exact ⟨⟨⟨⟨h0, h1⟩, hd⟩, hp, hz⟩, hpad⟩
  · rintro ⟨⟨⟨⟨h0, h1⟩, hd⟩, hp, hz⟩, hpad⟩
    exact ⟨h0, h1, hpad, hz, hp, hd⟩

/-- `ok &= prefix1ok | prefix2ok`, then the padding loop up to `k - correctTLen - 1`: the message passes
    for the first prefix or for the second, provided the loop for the second covers the loop for the
    first.  That is what makes the loop right when both prefixes match: it checks the shorter padding only. -/
theorem ok_prefix_pad (ok b1 b2 : Bool) (pad : Nat → Bool) (t1 t2 : Nat) (h : pad t2 = true → pad t1 = true) :
    (ok && (b1 || b2) && pad (if b1 = true then t1 else if b2 = true then t2 else 0)) =
      (ok && b1 && pad t1 || ok && b2 && pad t2) := by
  cases ok <;> cases b1 <;> cases b2 <;> simp
  -- left: both prefixes match, and the loop has run for the first
  exact h

/-- no access of `verifyPKCS1v15` is out of range, and it accepts the two canonical messages only -/
theorem verifyEM_eq (k : Nat) (p1 p2 d em : Bytes) (hlen : em.length = k)
    (hk : p1.length + d.length + 11 ≤ k) (hp : p2.length ≤ p1.length) :
    verifyEM k p1 p2 d em = some (decide (em = canonEM k p1 d) || decide (em = canonEM k p2 d)) := by
  obtain ⟨e0, he0⟩ : ∃ x, em[0]? = some x := ⟨_, List.getElem?_eq_getElem (by omega)⟩
  obtain ⟨e1, he1⟩ : ∃ x, em[1]? = some x := ⟨_, List.getElem?_eq_getElem (by omega)⟩
  obtain ⟨z1, hz1⟩ : ∃ x, em[k - (p1.length + d.length) - 1]? = some x := ⟨_, List.getElem?_eq_getElem (by omega)⟩
  obtain ⟨z2, hz2⟩ : ∃ x, em[k - (p2.length + d.length) - 1]? = some x := ⟨_, List.getElem?_eq_getElem (by omega)⟩
  have hdg : slice em (k - d.length) k = some (em.drop (k - d.length)) := by
    rw [slice_eq (n := d.length) (by omega) (by omega), List.take_of_length_le (by rw [List.length_drop]; omega)]
  have hs (p : Bytes) (h : p.length ≤ p1.length) : slice em (k - (p.length + d.length)) (k - d.length) =
      some ((em.drop (k - (p.length + d.length))).take p.length) := slice_eq (by omega) (by omega)
  have hno : ¬ (k < p1.length + d.length + 1 ∨ k < p2.length + d.length + 1) := by omega
  -- the shorter prefix has the longer padding
  have hmono : ((em.drop 2).take (k - (p2.length + d.length) - 3)).all (· == 0xff) = true →
      ((em.drop 2).take (k - (p1.length + d.length) - 3)).all (· == 0xff) = true := by
    simp only [List.all_eq_true]
    exact fun h x hx => h x ((List.take_sublist_take_left (by omega)).subset hx)
  -- every access is in range: what is left are the comparisons, which are those of `decide_eq_canonEM`
  simp only [verifyEM, Nat.not_lt.2 hk, hno, ↓reduceIte, he0, he1, hz1, hz2, hdg, hs p1 (Nat.le_refl _), hs p2 hp,
    slice_pad _ hlen (by omega : 2 ≤ k), Option.bind_eq_bind, Option.bind_some,
    decide_eq_canonEM k _ d em hlen (by omega : p1.length + d.length + 3 ≤ k),
    decide_eq_canonEM k _ d em hlen (by omega : p2.length + d.length + 3 ≤ k), Option.some_beq_some]
  exact congrArg some (ok_prefix_pad _ _ _ (fun t => ((em.drop 2).take (k - t - 3)).all (· == 0xff)) _ _ hmono)

theorem verify_iff (n e : Nat) (p1 p2 dg sig : Bytes) (hple : p2.length ≤ p1.length) :
    (∃ b, verify n e p1 p2 dg sig = some b) ∧
    (verify n e p1 p2 dg sig = some true ↔
      (p1.length + dg.length + 11 ≤ modLen n ∧
       let m := if n = 0 then 0 else modpow (bytesNat sig) e n
       let em := leftPad (natBytes (m + 1) m) (modLen n)
       (em = canonEM (modLen n) p1 dg ∨ em = canonEM (modLen n) p2 dg))) := by
  unfold verify
  by_cases hk : modLen n < p1.length + dg.length + 11
  · simp [hk, Nat.not_le.2 hk]
  · rw [if_neg hk, verifyEM_eq _ _ _ _ _ (leftPad_length _ _) (Nat.not_lt.1 hk) hple]
    simp [Nat.not_lt.1 hk]

def parts (em : Bytes) (n lp : Nat) : Bytes × Bytes × Bytes × Bytes × Bytes :=
  (em.take 2, (em.drop 2).take n, (em.drop (2 + n)).take 1, (em.drop (3 + n)).take lp, em.drop (3 + n + lp))

end Ysshra.Pkcs1

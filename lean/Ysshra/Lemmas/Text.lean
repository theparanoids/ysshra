import Ysshra.Model.Text
namespace Ysshra.Text

theorem cutAt_none (b : UInt8) (s : Bytes) (h : b ∉ s) : cutAt b s = none := by
  induction s with
  | nil => rfl
  | cons c r ih =>
    simp [cutAt, Ne.symm (List.ne_of_not_mem_cons h), ih (List.not_mem_of_not_mem_cons h)]

theorem cutAt_append {b : UInt8} {k : Bytes} (v : Bytes) (h : b ∉ k) :
    cutAt b (k ++ b :: v) = some (k, v) := by
  induction k with
  | nil => simp [cutAt]
  | cons c r ih =>
    simp [cutAt, Ne.symm (List.ne_of_not_mem_cons h), ih (List.not_mem_of_not_mem_cons h)]

/-- the cut is at the first occurrence of `b`, and a list that holds `b` has one -/
theorem cutAt_eq_some_iff {b : UInt8} {s k v : Bytes} :
    cutAt b s = some (k, v) ↔ s = k ++ b :: v ∧ b ∉ k := by
  constructor
  · intro h
    by_cases hb : b ∈ s
    · obtain ⟨k', v', rfl, hk'⟩ := List.eq_append_cons_of_mem hb
      rw [cutAt_append v' hk'] at h
      cases h
      exact ⟨rfl, hk'⟩
    · rw [cutAt_none b s hb] at h
      cases h
  · rintro ⟨rfl, hk⟩
    exact cutAt_append v hk

/-- `strings.Split` cuts at the first separator and splits what follows it -/
theorem splitOn_eq_cutAt (sep : UInt8) (s : Bytes) :
    splitOn sep s = match cutAt sep s with
      | none => [s]
      | some (k, v) => k :: splitOn sep v := by
  induction s with
  | nil => rfl
  | cons c r ih =>
    rw [splitOn, cutAt]
    split
    · rfl
    · rw [ih]
      cases cutAt sep r <;> rfl

theorem splitOn_ne_nil (sep : UInt8) (s : Bytes) : splitOn sep s ≠ [] := by
  rw [splitOn_eq_cutAt]
  split <;> exact List.cons_ne_nil _ _

theorem splitOn_field {sep : UInt8} {x : Bytes} (rest : Bytes) (hx : sep ∉ x) :
    splitOn sep (x ++ sep :: rest) = x :: splitOn sep rest := by
  rw [splitOn_eq_cutAt, cutAt_append rest hx]

theorem splitOn_single {sep : UInt8} {x : Bytes} (hx : sep ∉ x) : splitOn sep x = [x] := by
  rw [splitOn_eq_cutAt, cutAt_none sep x hx]

theorem splitOn_joinWith (sep : UInt8) (l : List Bytes) (hne : l ≠ []) (h : ∀ x ∈ l, sep ∉ x) :
    splitOn sep (joinWith sep l) = l := by
  induction l with
  | nil => exact absurd rfl hne
  | cons x r ih =>
    cases r with
    | nil => simpa [joinWith] using splitOn_single (h x (by simp))
    | cons y r' =>
      simp only [joinWith]
      rw [splitOn_field _ (h x (by simp))]
      rw [ih (by simp) (fun z hz => h z (List.mem_cons_of_mem _ hz))]

/-- values the round trip is stated for: no space byte anywhere and no white-space sequence at the
    end (implied by "free of white space") -/
def NoSp (v : Bytes) : Prop := 0x20 ∉ v ∧ ∀ p ∈ spaceSeqs, ¬ p <:+ v

/-- printable ASCII: above the space, below the UTF-8 lead and continuation bytes, so in no
    white-space sequence -/
def Printable (c : UInt8) : Prop := 0x20 < c.toNat ∧ c.toNat < 0x80

instance (c : UInt8) : Decidable (Printable c) := by unfold Printable; infer_instance

theorem spaceSeqs_ne_nil : ∀ p ∈ spaceSeqs, p ≠ [] := by decide

theorem spaceSeqs_not_printable : ∀ p ∈ spaceSeqs, ∀ b ∈ p, ¬ Printable b := by decide

theorem stripSpacePrefix_none_iff (s : Bytes) :
    stripSpacePrefix s = none ↔ ∀ p ∈ spaceSeqs, ¬ p <+: s := by
  simp [stripSpacePrefix]

theorem stripSpaceSuffix_none_iff (s : Bytes) :
    stripSpaceSuffix s = none ↔ ∀ p ∈ spaceSeqs, ¬ p <:+ s := by
  simp [stripSpaceSuffix]

theorem trimLeft_id {n : Nat} {s : Bytes} (h : stripSpacePrefix s = none) : trimLeft n s = s := by
  cases n <;> simp [trimLeft, h]

theorem trimRight_id {n : Nat} {s : Bytes} (h : stripSpaceSuffix s = none) : trimRight n s = s := by
  cases n <;> simp [trimRight, h]

theorem trimSpace_id {s : Bytes} (h1 : stripSpacePrefix s = none) (h2 : stripSpaceSuffix s = none) :
    trimSpace s = s := by
  unfold trimSpace
  rw [trimLeft_id h1, trimRight_id h2]

theorem stripSpacePrefix_printable {c : UInt8} {r : Bytes} (hc : Printable c) :
    stripSpacePrefix (c :: r) = none := by
  rw [stripSpacePrefix_none_iff]
  intro p hp hpre
  obtain ⟨t, ht⟩ := hpre
  cases p with
  | nil => exact spaceSeqs_ne_nil [] hp rfl
  | cons d p' =>
    simp only [List.cons_append, List.cons.injEq] at ht
    exact spaceSeqs_not_printable _ hp d (by simp) (ht.1 ▸ hc)

theorem noSp_nil : NoSp [] :=
  ⟨nofun, fun p hp hsuf => spaceSeqs_ne_nil p hp (List.suffix_nil.1 hsuf)⟩

theorem noSp_cons {c : UInt8} {r : Bytes} (hpre : stripSpacePrefix (c :: r) = none) (h : NoSp r) :
    NoSp (c :: r) := by
  have hpre := (stripSpacePrefix_none_iff _).1 hpre
  refine ⟨?_, fun p hp hsuf => ?_⟩
  · simp only [List.mem_cons, not_or]
    exact ⟨fun e => hpre [0x20] (by decide) ⟨r, by rw [e]; rfl⟩, h.1⟩
  · -- a white-space suffix of `c :: r` is all of it, hence a prefix, or a suffix of `r`
    rcases List.suffix_cons_iff.1 hsuf with rfl | hsuf
    · exact hpre _ hp (List.prefix_refl _)
    · exact h.2 p hp hsuf

theorem noSp_of_printable {v : Bytes} (h : ∀ c ∈ v, Printable c) : NoSp v := by
  induction v with
  | nil => exact noSp_nil
  | cons c r ih =>
    exact noSp_cons (stripSpacePrefix_printable (h c (List.mem_cons_self ..)))
      (ih fun x hx => h x (List.mem_cons_of_mem _ hx))

/-- two values joined by a printable byte (`key=value`, `user@host`) -/
theorem noSp_join {u v : Bytes} {c : UInt8} (hc : Printable c) (hu : NoSp u) (hv : NoSp v) :
    NoSp (u ++ c :: v) := by
  constructor
  · intro hm
    rcases List.mem_append.mp hm with hm | hm
    · exact hu.1 hm
    · rcases List.mem_cons.mp hm with rfl | hm
      · exact absurd hc (by decide)
      · exact hv.1 hm
  · intro p hp hsuf
    -- two suffixes of one list: `p` lies inside `v`, or reaches back over `c`
    rcases List.suffix_or_suffix_of_suffix hsuf (List.suffix_append u (c :: v)) with h | h
    · rcases List.suffix_cons_iff.1 h with rfl | h
      · exact spaceSeqs_not_printable _ hp c (by simp) hc
      · exact hv.2 p hp h
    · exact spaceSeqs_not_printable p hp c (h.subset (by simp)) hc

theorem parseUint_eq_some_iff {bits : Nat} {s : Bytes} {v : Nat} :
    parseUint bits s = some v ↔ v < 2 ^ bits ∧ s ≠ [] ∧ s.all isDigit = true ∧ v = digitsVal s := by
  by_cases hs : s = []
  · simp [parseUint, hs]
  by_cases hd : s.all isDigit = true
  · -- the syntax is right, the value decides
    suffices h : digitsVal s < 2 ^ bits ∧ digitsVal s = v ↔ v < 2 ^ bits ∧ v = digitsVal s by
      simpa [parseUint, hs, hd] using h
    exact ⟨fun ⟨h, e⟩ => ⟨e ▸ h, e.symm⟩, fun ⟨h, e⟩ => ⟨e ▸ h, e.symm⟩⟩
  · simp [parseUint, hd]

theorem digitsVal_append (xs : Bytes) (d : UInt8) :
    digitsVal (xs ++ [d]) = digitsVal xs * 10 + (d.toNat - 48) := by
  simp [digitsVal]

theorem ofNat_digit : ∀ k < 10, (UInt8.ofNat (48 + k)).toNat = 48 + k := by decide

theorem isDigit_ofNat (k : Nat) (h : k < 10) : isDigit (UInt8.ofNat (48 + k)) = true := by
  unfold isDigit
  rw [ofNat_digit k h]
  simp only [Bool.and_eq_true, decide_eq_true_eq]
  omega

theorem natDigits_spec (fuel n : Nat) (h : n < fuel) :
    (natDigits fuel n).all isDigit = true ∧ digitsVal (natDigits fuel n) = n := by
  induction fuel generalizing n with
  | zero => omega
  | succ f ih =>
    unfold natDigits
    split
    · rename_i hlt
      constructor
      · rw [List.all_cons, List.all_nil, Bool.and_true]
        exact isDigit_ofNat n hlt
      · unfold digitsVal
        rw [List.foldl_cons, List.foldl_nil, ofNat_digit n hlt, Nat.add_sub_cancel_left, Nat.zero_mul,
          Nat.zero_add]
    · rename_i hge
      have hd : n / 10 < f := by omega
      obtain ⟨h2, h3⟩ := ih (n / 10) hd
      have hm : n % 10 < 10 := Nat.mod_lt _ (by decide)
      constructor
      · rw [List.all_append, h2, List.all_cons, List.all_nil, Bool.and_true, Bool.true_and]
        exact isDigit_ofNat _ hm
      · rw [digitsVal_append, h3, ofNat_digit _ hm, Nat.add_sub_cancel_left]
        exact Nat.div_add_mod' n 10

theorem natDec_spec (n : Nat) : (natDec n).all isDigit = true ∧ digitsVal (natDec n) = n :=
  natDigits_spec (n + 1) n (by omega)

/-- also for no digits at all: the loose parse of a bare sign is 0, and so is the value of no digits -/
theorem parseIntLoose_neg (ds : Bytes) (hall : ds.all isDigit = true) :
    parseIntLoose (0x2d :: ds) =
      if digitsVal ds > 2 ^ 63 then -(2 ^ 63 : Int) else -(digitsVal ds : Int) := by
  cases ds with
  | nil => decide
  | cons c r => simp [parseIntLoose, hall]

theorem parseIntLoose_digits (ds : Bytes) (hall : ds.all isDigit = true) :
    parseIntLoose ds = if digitsVal ds ≥ 2 ^ 63 then (2 ^ 63 - 1 : Int) else (digitsVal ds : Int) := by
  cases ds with
  | nil => decide
  | cons c r =>
    -- the first byte is a digit, so neither sign pattern applies
    have hc : isDigit c = true := by
      simp only [List.all_cons, Bool.and_eq_true] at hall
      exact hall.1
    have h1 : c ≠ 0x2d := by rintro rfl; revert hc; decide
    have h2 : c ≠ 0x2b := by rintro rfl; revert hc; decide
    simp [parseIntLoose, h1, h2, hall]

theorem parseIntLoose_intDec (i : Int) (h : -(2 ^ 63 : Int) ≤ i ∧ i < 2 ^ 63) :
    parseIntLoose (intDec i) = i := by
  obtain ⟨hall, hval⟩ := natDec_spec i.natAbs
  unfold intDec
  split
  · rw [parseIntLoose_neg _ hall, hval, if_neg (by omega)]
    omega
  · rw [parseIntLoose_digits _ hall, hval, if_neg (by omega)]
    omega

theorem noSp_intDec (i : Int) : NoSp (intDec i) := by
  apply noSp_of_printable
  have hd : ∀ c ∈ natDec i.natAbs, Printable c := fun c hc => by
    have := List.all_eq_true.mp (natDec_spec i.natAbs).1 c hc
    simp only [isDigit, Bool.and_eq_true, decide_eq_true_eq] at this
    exact ⟨by omega, by omega⟩
  intro c hc
  unfold intDec at hc
  split at hc
  · rcases List.mem_cons.1 hc with rfl | hc
    · decide
    · exact hd c hc
  · exact hd c hc

end Ysshra.Text

import Ysshra.Bridge.Attest
import Ysshra.Lemmas.Pkcs1
/-
C06 — attestation accepts only certificates signed by a device key chaining to the roots.
-/
namespace Ysshra
namespace C06
open Pkcs1 Attest

/-- Attestation never succeeds unless the device certificate chains to the root pool. -/
theorem c06_chain_required (algo : Nat) (digest : Nat → Bytes) (sig : Bytes) (key : PubKey) :
    attest false algo digest sig key = .reject := rfl

theorem attest_true (algo : Nat) (digest : Nat → Bytes) (sig : Bytes) (key : PubKey) :
    attest true algo digest sig key = checkSignature algo digest sig key := rfl

/-- what the signature check rejects is rejected whatever the chain -/
theorem attest_reject {chainOK : Bool} {algo : Nat} {digest : Nat → Bytes} {sig : Bytes} {key : PubKey}
    (h : checkSignature algo digest sig key = .reject) : attest chainOK algo digest sig key = .reject := by
  cases chainOK with
  | false => rfl
  | true => exact h

/-- MD2 / MD5 are rejected as insecure, every label outside the SHA-1/256/384/512 families as
    unsupported — about the switch regenerated from signature.go. -/
theorem c06_algo (algo : Nat) :
    Gen.Attest.algoSwitch algo =
      if algo = 3 ∨ algo = 7 ∨ algo = 9 then .hash 3          -- SHA1WithRSA, DSAWithSHA1, ECDSAWithSHA1
      else if algo = 4 ∨ algo = 8 ∨ algo = 10 then .hash 5    -- SHA256…
      else if algo = 5 ∨ algo = 11 then .hash 6               -- SHA384…
      else if algo = 6 ∨ algo = 12 then .hash 7               -- SHA512…
      else if algo = 1 ∨ algo = 2 then .insecure              -- MD2WithRSA, MD5WithRSA
      else .unsupported := by
  rw [Bridge.Attest.algo_bridge]; rfl

theorem c06_unsupported_rejected (chainOK : Bool) (algo : Nat) (digest : Nat → Bytes) (sig : Bytes)
    (key : PubKey) (h : ∀ x, algoSpec algo ≠ .hash x) : attest chainOK algo digest sig key = .reject := by
  refine attest_reject ?_
  rw [checkSignature]
  cases ha : algoSpec algo with
  | hash x => exact absurd ha (h x)
  | insecure => rfl
  | unsupported => rfl

/-- A non-RSA device key is rejected whatever else holds. -/
theorem c06_non_rsa (chainOK : Bool) (algo : Nat) (digest : Nat → Bytes) (sig : Bytes) :
    attest chainOK algo digest sig .other = .reject := by
  refine attest_reject ?_
  rw [checkSignature]
  cases algoSpec algo <;> rfl

/-- The two accepted encodings are different messages for each supported hash (so "both are
    accepted" is not vacuous). -/
theorem c06_two_encodings : ∀ h ∈ [3, 5, 6, 7], prefixNull h ≠ prefixNoNull h ∧
    ((prefixNoNull h).map List.length).getD 0 + 2 = ((prefixNull h).map List.length).getD 0 := by decide

/-- The core, for every modulus length `k` at once: a left-padded encoded message of `k` bytes
    passes `verifyPKCS1v15` exactly when it is one of the two full-length PKCS#1 v1.5 encoded
    messages — `00 01 FF…FF 00 ‖ DigestInfo prefix ‖ digest` with the prefix that carries the NULL
    parameter or the one without.  Every other string — any padding byte, the block type, the
    separator, any identifier or digest byte replaced, padding shortened or shifted — is rejected;
    and no index or slice expression goes out of range. -/
theorem c06_em_iff (k : Nat) (p1 p2 d em : Bytes) (hlen : em.length = k)
    (hk : p1.length + d.length + 11 ≤ k) (hp : p2.length ≤ p1.length) :
    (∃ b, verifyEM k p1 p2 d em = some b) ∧
    (verifyEM k p1 p2 d em = some true ↔
      (em = Spec.C06.canonEM k p1 d ∨ em = Spec.C06.canonEM k p2 d)) := by
  rw [verifyEM_eq k p1 p2 d em hlen hk hp]
  simp

/-- a modulus too short for the encoded message is always a rejection -/
theorem c06_short_modulus (k : Nat) (p1 p2 d em : Bytes) (hk : k < p1.length + d.length + 11) :
    verifyEM k p1 p2 d em = some false := by
  simp [verifyEM, hk]

/-- For the four supported hashes, with the prefix tables regenerated from signature.go:
    verification of `sig` under the RSA key `(n, e)` succeeds iff `sig^e mod n`, left-padded to the
    modulus length, is a full-length encoded message for the digest, in either DigestInfo encoding;
    it never crashes. -/
theorem c06_verify_iff (n e : Nat) (h : Nat) (hh : h ∈ [3, 5, 6, 7]) (dg sig : Bytes) (p1 p2 : Bytes)
    (hp1 : Gen.Attest.hashPrefixes1.lookup h = some p1) (hp2 : Gen.Attest.hashPrefixes2.lookup h = some p2)
    (hd : dg.length = hashSize h) :
    (∃ b, verify n e p1 p2 dg sig = some b) ∧
    (verify n e p1 p2 dg sig = some true ↔
      (p1.length + dg.length + 11 ≤ modLen n ∧
       let m := if n = 0 then 0 else modpow (bytesNat sig) e n
       let em := leftPad (natBytes (m + 1) m) (modLen n)
       (em = Spec.C06.canonEM (modLen n) p1 dg ∨ em = Spec.C06.canonEM (modLen n) p2 dg))) := by
  -- all that is needed of the regenerated tables: the second prefix is no longer than the first
  have hb := Bridge.Attest.prefix2_le_prefix1 h ((by decide : ∀ h ∈ [3, 5, 6, 7], h ∈ [2, 3, 4, 5, 6, 7, 8, 9]) h hh)
  rw [hp1, hp2] at hb
  exact verify_iff n e p1 p2 dg sig (by simpa using hb)

/-- Attestation as a whole: accepted iff the device certificate chains to the roots, the label
    names a supported hash, the device key is RSA, and the signature value raised to the public
    exponent is a full-length encoded message for that hash's digest of the to-be-signed bytes. -/
theorem c06_attest_iff (chainOK : Bool) (algo : Nat) (digest : Nat → Bytes) (sig : Bytes) (key : PubKey) :
    attest chainOK algo digest sig key = .accept ↔
      (chainOK = true ∧ ∃ h n e p1 p2, algoSpec algo = .hash h ∧ key = .rsa n e ∧
        prefixNull h = some p1 ∧ prefixNoNull h = some p2 ∧ (digest h).length = hashSize h ∧
        verify n e p1 p2 (digest h) sig = some true) := by
  cases chainOK with
  | false => simp only [c06_chain_required, reduceCtorEq, Bool.false_eq_true, false_and]
  | true =>
    rw [attest_true, checkSignature]
    cases ha : algoSpec algo with
    | insecure => simp
    | unsupported => simp
    | hash h =>
      cases key with
      | other => simp
      | rsa n e =>
        simp only [AlgoRes.hash.injEq, PubKey.rsa.injEq, and_assoc, exists_and_left, exists_eq_left']
        cases hp1 : prefixNull h with
        | none => simp
        | some p1 =>
          cases hp2 : prefixNoNull h with
          | none => simp
          | some p2 =>
            simp only [Option.some.injEq, exists_eq_left']
            by_cases hd : (digest h).length = hashSize h
            · simp only [hd, ne_eq, not_true_eq_false, ↓reduceIte, true_and]
              cases verify n e p1 p2 (digest h) sig with
              | none => simp
              | some b => cases b <;> simp
            · simp [hd]

end C06
end Ysshra

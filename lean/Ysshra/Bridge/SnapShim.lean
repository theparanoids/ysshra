import Ysshra.Gen.SnapShim
/-
Pinned snapshot of Gen.SnapShim (see extract/snap.go): the regenerated statements of the source files
equal, declaration by declaration, what the hand-written models and harnesses were written against.
`by rfl` and not the term `rfl`: the tactic compares the two literals directly and is half as dear to check.
-/
set_option maxRecDepth 100000
namespace Ysshra.Bridge.SnapShim
open Ysshra

theorem agent_shimagent_shimserver_pinned : Gen.SnapShim.agent_shimagent_shimserver = ([
  (c!"var", [c!"errAgentLocked = errors.New(\"agent: locked\")", c!"errAgentUnlocked = errors.New(\"agent: not locked\")", c!"errAgentNotFoundKey = errors.New(\"agent: key not found\")"]),
  (c!"type", [c!"certificate struct { *ssh.Certificate Blob []byte Comment string }"]),
  (c!"(*certificate).Marshal func() []byte", [c!"return c.Blob"]),
  (c!"type", [c!"signer struct { cert *certificate agent agent.ExtendedAgent }"]),
  (c!"(signer).PublicKey func() ssh.PublicKey", [c!"return s.cert"]),
  (c!"(signer).Sign func(_ io.Reader, data []byte) (*ssh.Signature, error)", [c!"return s.agent.Sign(s.cert.Key, data)"]),
  (c!"(signer).SignWithAlgorithm func(_ io.Reader, data []byte, algorithm string) (*ssh.Signature, error)", [c!"var flags agent.SignatureFlags", c!"switch algorithm { case ssh.KeyAlgoRSASHA256: flags = agent.SignatureFlagRsaSha256 case ssh.KeyAlgoRSASHA512: flags = agent.SignatureFlagRsaSha512 }", c!"return s.agent.SignWithFlags(s.cert.Key, data, flags)"]),
  (c!"type", [c!"upstreamSigner struct { pub ssh.PublicKey agent agent.ExtendedAgent }"]),
  (c!"(upstreamSigner).PublicKey func() ssh.PublicKey", [c!"return s.pub"]),
  (c!"(upstreamSigner).Sign func(_ io.Reader, data []byte) (*ssh.Signature, error)", [c!"return s.agent.Sign(s.pub, data)"]),
  (c!"(upstreamSigner).SignWithAlgorithm func(_ io.Reader, data []byte, algorithm string) (*ssh.Signature, error)", [c!"var flags agent.SignatureFlags", c!"switch algorithm { case \"\", keyAlgo(s.pub): case ssh.KeyAlgoRSASHA256: flags = agent.SignatureFlagRsaSha256 case ssh.KeyAlgoRSASHA512: flags = agent.SignatureFlagRsaSha512 default: return nil, fmt.Errorf(\"agent: unsupported algorithm %q\", algorithm) }", c!"return s.agent.SignWithFlags(s.pub, data, flags)"]),
  (c!"keyAlgo func(pub ssh.PublicKey) string", [c!"if parsed, err := ssh.ParsePublicKey(pub.Marshal()); err == nil { if cert, ok := parsed.(*ssh.Certificate); ok { return cert.Key.Type() } }", c!"return pub.Type()"]),
  (c!"type", [c!"hashcode [sha256.Size]byte"]),
  (c!"hash func(data []byte) hashcode", [c!"return sha256.Sum256(data)"]),
  (c!"type", [c!"Server struct { mu sync.RWMutex conn io.ReadWriteCloser agent agent.ExtendedAgent certs map[hashcode]*certificate conds [40]*sync.Cond locked bool noUpstreamSSHCACert bool upstreamSSHCACertCache map[hashcode]struct{} pubKeyComp func(ssh.PublicKey, ssh.PublicKey) bool }"]),
  (c!"type", [c!"Option struct { Address string NoUpstream bool PubKeyComp func(ssh.PublicKey, ssh.PublicKey) bool }"]),
  (c!"New func(opt Option) (ShimAgent, error)", [c!"conn, err := connection.GetConn(opt.Address)", c!"if err != nil { return nil, err }", c!"ag, err := newShimAgent(conn, opt.NoUpstream)", c!"if err != nil { return nil, err }", c!"if opt.PubKeyComp == nil { opt.PubKeyComp = func(x, y ssh.PublicKey) bool { return bytes.Equal(x.Marshal(), y.Marshal()) } }", c!"ag.pubKeyComp = opt.PubKeyComp", c!"return ag, nil"]),
  (c!"newShimAgent func(conn io.ReadWriteCloser, noUpstream bool) (*Server, error)", [c!"if conn == nil { return nil, errors.New(\"cannot start a shimagent with nil conn\") }", c!"srv := &Server{ conn: conn, agent: agent.NewClient(conn), certs: make(map[hashcode]*certificate), noUpstreamSSHCACert: noUpstream, upstreamSSHCACertCache: make(map[hashcode]struct{}), }", c!"for i := range srv.conds { srv.conds[i] = sync.NewCond(&sync.Mutex{}) }", c!"if noUpstream { keys, err := srv.agent.List() if err != nil { return nil, err } for _, key := range keys { if cert, err := keyutil.CastSSHPublicKeyToCertificate(key); err == nil { if _, err := keyid.Unmarshal(cert.KeyId); err == nil { srv.upstreamSSHCACertCache[hash(cert.Marshal())] = struct{}{} } } } }", c!"return srv, nil"]),
  (c!"(*Server).remove func(key ssh.PublicKey) error", [c!"removed := false", c!"h := hash(key.Marshal())", c!"if _, ok := s.certs[h]; ok { delete(s.certs, h) removed = true }", c!"err := s.agent.Remove(key)", c!"if err != nil && !removed { return err }", c!"if s.noUpstreamSSHCACert { delete(s.upstreamSSHCACertCache, h) }", c!"return nil"]),
  (c!"(*Server).filter func() (inMemoryCerts map[hashcode]*certificate, inAgentKeys []*agent.Key, err error)", [c!"inMemoryCerts = s.certs", c!"inAgentKeys, err = s.agent.List()", c!"if err != nil { return nil, nil, err }", c!"remove := remover(func(pub ssh.PublicKey) error { if err := s.remove(pub); err != nil { return err } for i, key := range inAgentKeys { if bytes.Equal(key.Marshal(), pub.Marshal()) { length := len(inAgentKeys) inAgentKeys[i] = inAgentKeys[length-1] inAgentKeys = inAgentKeys[:length-1] break } } return nil })", c!"if err := filterOrphanCerts(remove, inMemoryCerts, inAgentKeys); err != nil { return nil, nil, err }", c!"if err := filterExpiredCerts(remove, inMemoryCerts, inAgentKeys); err != nil { return nil, nil, err }", c!"return inMemoryCerts, inAgentKeys, nil"]),
  (c!"(*Server).Broadcast func(msg byte) error", [c!"if msg < byte(len(s.conds)) { s.conds[msg].L.Lock() defer s.conds[msg].L.Unlock() s.conds[msg].Broadcast() }", c!"return nil"]),
  (c!"(*Server).Wait func(msg byte) error", [c!"if msg < byte(len(s.conds)) { s.conds[msg].L.Lock() defer s.conds[msg].L.Unlock() s.conds[msg].Wait() }", c!"return nil"]),
  (c!"(*Server).Close func() error", [c!"s.mu.Lock()", c!"defer s.mu.Unlock()", c!"if s.locked { return errAgentLocked }", c!"return s.conn.Close()"]),
  (c!"(*Server).List func() ([]*agent.Key, error)", [c!"s.mu.Lock()", c!"defer s.mu.Unlock()", c!"if s.locked { return []*agent.Key{}, nil }", c!"certsInMemory, keysInAgent, err := s.filter()", c!"if err != nil { return nil, err }", c!"var keys []*agent.Key", c!"for _, cert := range certsInMemory { keys = append(keys, marshalAgentKey(cert)) }", c!"for _, key := range keysInAgent { cert, err := keyutil.CastSSHPublicKeyToCertificate(key) if err != nil { keys = append(keys, key) continue } keyHash := hash(cert.Marshal()) if _, ok := s.upstreamSSHCACertCache[keyHash]; ok { continue } if _, err := keyid.Unmarshal(cert.KeyId); s.noUpstreamSSHCACert && err == nil { s.upstreamSSHCACertCache[keyHash] = struct{}{} continue } label, err := certutil.Label(cert) if err != nil { label = key.Comment } else if key.Comment != \"\" { label += \"-\" + key.Comment } keys = append(keys, marshalAgentKey(&certificate{cert, cert.Marshal(), label})) }", c!"sort.Slice(keys, func(i, j int) bool { return s.pubKeyComp(keys[i], keys[j]) })", c!"return keys, err"]),
  (c!"(*Server).Forward func(req []byte) (resp []byte, err error)", [c!"s.mu.Lock()", c!"defer s.mu.Unlock()", c!"if err = write(s.conn, req); err != nil { return nil, err }", c!"return read(s.conn)"]),
  (c!"(*Server).AddHardCert func(key ssh.PublicKey, suffix string) error", [c!"s.mu.Lock()", c!"defer s.mu.Unlock()", c!"if s.locked { return errAgentLocked }", c!"if key == nil { return errors.New(\"null key provided\") }", c!"keyHash := hash(key.Marshal())", c!"if _, ok := s.certs[keyHash]; ok { return nil }", c!"cert, err := keyutil.CastSSHPublicKeyToCertificate(key)", c!"if err != nil { return err }", c!"label, err := certutil.Label(cert)", c!"if err != nil { label = suffix } else if suffix != \"\" { label += \"-\" + suffix }", c!"agentKeys, err := s.agent.List()", c!"if err != nil { return err }", c!"for _, agentKey := range agentKeys { if bytes.Equal(agentKey.Marshal(), cert.Key.Marshal()) { s.certs[keyHash] = &certificate{cert, cert.Marshal(), label} return nil } }", c!"return errAgentNotFoundKey"]),
  (c!"(*Server).Sign func(key ssh.PublicKey, data []byte) (*ssh.Signature, error)", [c!"return s.SignWithFlags(key, data, 0)"]),
  (c!"(*Server).SignWithFlags func(key ssh.PublicKey, data []byte, flags agent.SignatureFlags) (*ssh.Signature, error)", [c!"s.mu.Lock()", c!"defer s.mu.Unlock()", c!"if s.locked { return nil, errors.New(\"agent is locked\") }", c!"if key == nil { return nil, errors.New(\"null key provided\") }", c!"if _, _, err := s.filter(); err != nil { return nil, err }", c!"if cert, err := keyutil.CastSSHPublicKeyToCertificate(key); err == nil { keyHash := hash(cert.Marshal()) if _, ok := s.certs[keyHash]; ok { return s.agent.SignWithFlags(cert.Key, data, flags) } if _, err := keyid.Unmarshal(cert.KeyId); err == nil && s.noUpstreamSSHCACert { return nil, errAgentNotFoundKey } }", c!"return s.agent.SignWithFlags(key, data, flags)"]),
  (c!"(*Server).Add func(key agent.AddedKey) (err error)", [c!"s.mu.Lock()", c!"defer s.mu.Unlock()", c!"if s.locked { return errAgentLocked }", c!"return s.agent.Add(key)"]),
  (c!"(*Server).Remove func(key ssh.PublicKey) error", [c!"s.mu.Lock()", c!"defer s.mu.Unlock()", c!"if s.locked { return errAgentLocked }", c!"if key == nil { return errors.New(\"null key provided\") }", c!"return s.remove(key)"]),
  (c!"(*Server).RemoveAll func() error", [c!"s.mu.Lock()", c!"defer s.mu.Unlock()", c!"if s.locked { return errAgentLocked }", c!"s.certs = make(map[hashcode]*certificate)", c!"s.upstreamSSHCACertCache = make(map[hashcode]struct{})", c!"return s.agent.RemoveAll()"]),
  (c!"(*Server).Lock func(passphrase []byte) error", [c!"s.mu.Lock()", c!"defer s.mu.Unlock()", c!"if s.locked { return errAgentLocked }", c!"err := s.agent.Lock(passphrase)", c!"if err == nil { s.locked = true }", c!"return err"]),
  (c!"(*Server).Unlock func(passphrase []byte) error", [c!"s.mu.Lock()", c!"defer s.mu.Unlock()", c!"if !s.locked { return errAgentUnlocked }", c!"err := s.agent.Unlock(passphrase)", c!"if err == nil { s.locked = false }", c!"return err"]),
  (c!"(*Server).Signers func() ([]ssh.Signer, error)", [c!"s.mu.Lock()", c!"defer s.mu.Unlock()", c!"if s.locked { return nil, errors.New(\"agent is locked\") }", c!"certsInMemory, keysInAgent, err := s.filter()", c!"if err != nil { return nil, err }", c!"signers := make([]ssh.Signer, 0, len(certsInMemory)+len(keysInAgent))", c!"for _, cert := range s.certs { signers = append(signers, signer{cert, s}) }", c!"uss, err := s.agent.Signers()", c!"if err != nil { return nil, err }", c!"for _, us := range uss { signer := upstreamSigner{us.PublicKey(), s} if !s.noUpstreamSSHCACert { signers = append(signers, signer) continue } cert, err := keyutil.CastSSHPublicKeyToCertificate(signer.PublicKey()) if err != nil { signers = append(signers, signer) continue } keyHash := hash(cert.Marshal()) if _, ok := s.upstreamSSHCACertCache[keyHash]; ok { continue } if _, err := keyid.Unmarshal(cert.KeyId); err == nil { s.upstreamSSHCACertCache[keyHash] = struct{}{} continue } signers = append(signers, signer) }", c!"sort.Slice(signers, func(i, j int) bool { return s.pubKeyComp(signers[i].PublicKey(), signers[j].PublicKey()) })", c!"return signers, nil"]),
  (c!"(*Server).Extension func(extensionType string, contents []byte) ([]byte, error)", [c!"s.mu.Lock()", c!"defer s.mu.Unlock()", c!"return s.agent.Extension(extensionType, contents)"]),
  (c!"const", [c!"maxAgentResponseBytes = 16 << 20"]),
  (c!"read func(c io.Reader) (data []byte, err error)", [c!"var length [4]byte", c!"if _, err := io.ReadFull(c, length[:]); err != nil { return nil, err }", c!"l := binary.BigEndian.Uint32(length[:])", c!"if l > maxAgentResponseBytes { return nil, fmt.Errorf(\"data size too large: %d\", l) }", c!"data = make([]byte, l)", c!"if _, err := io.ReadFull(c, data); err != nil { return nil, err }", c!"return data, nil"]),
  (c!"write func(c io.Writer, data []byte) (err error)", [c!"if len(data) > maxAgentResponseBytes { return fmt.Errorf(\"data size too large: %d\", len(data)) }", c!"var length [4]byte", c!"binary.BigEndian.PutUint32(length[:], uint32(len(data)))", c!"if _, err := c.Write(length[:]); err != nil { return err }", c!"if _, err := c.Write(data); err != nil { return err }", c!"return nil"]),
  (c!"marshalAgentKey func(key ssh.PublicKey) *agent.Key", [c!"ak := keyutil.CastSSHPublicKeyToAgentKey(key)", c!"if cert, ok := key.(*certificate); ok { ak.Comment = cert.Comment }", c!"return ak"])
] : List (Str × List Str)) := by rfl

theorem agent_shimagent_filter_pinned : Gen.SnapShim.agent_shimagent_filter = ([
  (c!"type", [c!"helperShimAgentServer interface { remove(ssh.PublicKey) error }"]),
  (c!"type", [c!"remover func(ssh.PublicKey) error"]),
  (c!"(remover).remove func(key ssh.PublicKey) error", [c!"return r(key)"]),
  (c!"filterExpiredCerts func(s helperShimAgentServer, certsInMemory map[hashcode]*certificate, keysInAgent []*agent.Key) error", [c!"now := time.Now()", c!"var errs error", c!"remove := func(key ssh.PublicKey) { errs = multierr.Append(errs, s.remove(key)) }", c!"for _, key := range keysInAgent { cert, err := keyutil.CastSSHPublicKeyToCertificate(key) if err != nil { continue } if !certutil.ValidateSSHCertTime(cert, now) { remove(cert) } }", c!"for _, cert := range certsInMemory { if !certutil.ValidateSSHCertTime(cert.Certificate, now) { remove(cert.Certificate) } }", c!"if errs != nil { return errs }", c!"return nil"]),
  (c!"filterOrphanCerts func(s helperShimAgentServer, certsInMemory map[hashcode]*certificate, keysInAgent []*agent.Key) error", [c!"if len(keysInAgent) == 0 { return nil }", c!"publicKeys := make(map[hashcode]struct{})", c!"for _, key := range keysInAgent { cert, err := keyutil.CastSSHPublicKeyToCertificate(key) if err == nil { publicKeys[hash(cert.Key.Marshal())] = struct{}{} } else { publicKeys[hash(key.Marshal())] = struct{}{} } }", c!"var errs error", c!"for _, cert := range certsInMemory { if _, ok := publicKeys[hash(cert.Key.Marshal())]; !ok { errs = multierr.Append(errs, s.remove(cert.Certificate)) } }", c!"if errs != nil { return errs }", c!"return nil"])
] : List (Str × List Str)) := by rfl

theorem agent_shimagent_agent_pinned : Gen.SnapShim.agent_shimagent_agent = ([
  (c!"type", [c!"ShimAgent interface { agent.ExtendedAgent Forward(req []byte) (resp []byte, err error) AddHardCert(key ssh.PublicKey, comment string) error Wait(agentMsg byte) error Close() error }"])
] : List (Str × List Str)) := by rfl

theorem sshutils_cert_validation_pinned : Gen.SnapShim.sshutils_cert_validation = ([
  (c!"ValidateSSHCertTime func(cert *ssh.Certificate, currentTime time.Time) bool", [c!"if cert == nil { return false }", c!"now := currentTime", c!"if now.IsZero() { now = time.Now() }", c!"vb := cert.ValidBefore", c!"va := cert.ValidAfter", c!"if vb > math.MaxInt64 { vb = math.MaxInt64 }", c!"if va > math.MaxInt64 { va = math.MaxInt64 }", c!"if int64(va) > now.Unix() || now.Unix() > int64(vb) { return false }", c!"return true"])
] : List (Str × List Str)) := by rfl

end Ysshra.Bridge.SnapShim

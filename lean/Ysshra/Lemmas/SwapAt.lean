/-
The swap step of a swap-remove (overwrite an entry with the last one, drop the last one), as both the
keyring of the forwarded agent (`Gensign.swapRemoveAll`) and the shim's `filter` closure
(`Shim.swapRemove`) perform it: the entries before the index stay where they are, the others only
change order.
-/
namespace Ysshra
open List

theorem swapAt_append {α} (A : List α) (y : α) (B : List α) (last : α)
    (hlast : (A ++ y :: B).getLast? = some last) :
    ∃ B', ((A ++ y :: B).set A.length last).dropLast = A ++ B' ∧ B' ~ B := by
  rw [List.set_append_right _ _ (Nat.le_refl _), Nat.sub_self, List.set_cons_zero,
    List.dropLast_append_of_ne_nil (by simp)]
  refine ⟨_, rfl, ?_⟩
  rcases List.eq_nil_or_concat B with rfl | ⟨B0, z, rfl⟩
  · simp
  · obtain rfl : z = last := by
      rw [List.concat_eq_append, ← List.cons_append, ← List.append_assoc, List.getLast?_concat] at hlast
      exact Option.some.inj hlast
    rw [List.concat_eq_append, ← List.cons_append, List.dropLast_concat]
    exact (List.perm_append_singleton _ _).symm

theorem swapAt_perm {α} (l : List α) (i : Nat) (last : α) (hi : i < l.length)
    (hlast : l.getLast? = some last) : (l.set i last).dropLast ~ l.eraseIdx i := by
  have hl : l = l.take i ++ l[i] :: l.drop (i + 1) := by simp
  obtain ⟨B', h, hp⟩ := swapAt_append (l.take i) l[i] (l.drop (i + 1)) last (hl ▸ hlast)
  rw [← hl, List.length_take, Nat.min_eq_left (Nat.le_of_lt hi)] at h
  rw [h, List.eraseIdx_eq_take_drop_succ]
  exact hp.append_left _

end Ysshra

import Ysshra.Gen.Param
import Ysshra.Lemmas.Text
/-
Bridge: the statement-by-statement translations of `parseForceCommand`, `version.Unmarshal` and
`ValidNamespacePolicy` (regenerated on every run) equal the hand-written model for all inputs.
In particular no index or slice expression of the source panics (`.crash` is never the result).
-/
namespace Ysshra.Bridge.Param
open Ysshra.Text Ysshra.Message

theorem validPolicy_bridge (p : Bytes) : Gen.Param.validNamespacePolicy p = validPolicy p := by
  unfold Gen.Param.validNamespacePolicy Gen.Param.namespacePolicies validPolicy NONS NSOK
  -- `p == lit` on the left (from `List.contains`), `decide (p = lit)` on the right
  simp

theorem index_nat {α : Type} (xs : List α) (n : Nat) : GoSem.index xs (n : Int) = xs[n]? := by
  unfold GoSem.index
  have : ¬ ((n : Int) < 0) := by omega
  simp [this]

/-- `parseForceCommand`, as translated from the source, is the model's function: it never panics
    on an index, and fails or succeeds exactly where the model does. -/
theorem parseForceCommand_bridge (argv : List Bytes) :
    Gen.Param.parseForceCommand argv =
      match parseForceCommand argv with
      | some r => .ok r
      | none => .err := by
  unfold Gen.Param.parseForceCommand parseForceCommand
  simp only [← List.flatMap_eq_foldl, GoSem.split, GoSem.len]
  generalize argv.flatMap (fun a => splitOn 0x20 a) = args
  by_cases h3 : args.length < 3
  · have : ((args.length : Int) < 3) := by omega
    simp [h3, this]
  · have n3 : ¬ ((args.length : Int) < 3) := by omega
    by_cases h6 : args.length > 6
    · have : ((args.length : Int) > 6) := by omega
      simp [h3, n3, h6, this]
    · have n6 : ¬ ((args.length : Int) > 6) := by omega
      have e2 : (args.length : Int) - 2 = ((args.length - 2 : Nat) : Int) := by omega
      have e1 : (args.length : Int) - 1 = ((args.length - 1 : Nat) : Int) := by omega
      simp only [h3, n3, h6, n6, decide_false, if_false, Bool.false_eq_true, e2, e1, index_nat, validPolicy_bridge]
      have l2 : args.length - 2 < args.length := by omega
      have l1 : args.length - 1 < args.length := by omega
      rw [List.getElem?_eq_getElem l2, List.getElem?_eq_getElem l1]
      dsimp only
      cases validPolicy args[args.length - 2] <;> simp

theorem versionREMatch_eq (s : Bytes) : Gen.Param.versionREMatch s = GoSem.digitsDotDigits s := by
  unfold Gen.Param.versionREMatch Gen.Param.versionRE GoSem.reMatch
  simp

theorem parseUint_eq (v : Bytes) : GoSem.parseUint v Gen.Param.base Gen.Param.bitSize = Text.parseUint 16 v := by
  unfold GoSem.parseUint Gen.Param.base Gen.Param.bitSize
  simp

theorem slice_to (a r : Bytes) : GoSem.slice (a ++ r) none (some (a.length : Int)) = some a := by
  unfold GoSem.slice
  simp only [Option.getD_none, Option.getD_some]
  rw [if_neg (by simp only [List.length_append]; omega)]
  simp

theorem slice_from (a : Bytes) (c : UInt8) (b : Bytes) :
    GoSem.slice (a ++ c :: b) (some ((a.length : Int) + 1)) none = some b := by
  unfold GoSem.slice
  simp only [Option.getD_none, Option.getD_some]
  rw [if_neg (by simp only [List.length_append, List.length_cons]; omega)]
  rw [Int.toNat_natCast, List.take_length]
  simp

/-- `version.Unmarshal`, as translated from the source, is the model's function: the two slice
    expressions never panic, and it fails or succeeds exactly where the model does, with the same
    major and minor numbers. -/
theorem versionUnmarshal_bridge (s : Bytes) :
    Gen.Param.versionUnmarshal s =
      match versionUnmarshal s with
      | some v => .ok (v.major, v.minor)
      | none => .err := by
  unfold Gen.Param.versionUnmarshal versionUnmarshal
  rw [versionREMatch_eq]
  unfold GoSem.digitsDotDigits GoSem.indexOf
  cases hc : cutAt 0x2e s with
  | none => simp
  | some ab =>
    obtain ⟨a, b⟩ := ab
    obtain ⟨rfl, _⟩ := cutAt_eq_some_iff.1 hc
    -- the model's guard is the negation of the regular expression's match
    simp only [Bool.not_and, Bool.not_not]
    cases (a.isEmpty || b.isEmpty || !a.all isDigit || !b.all isDigit)
    · simp only [Bool.false_eq_true, if_false, hc, slice_to, slice_from, parseUint_eq]
      cases ha : Text.parseUint 16 a with
      | none => simp
      | some x =>
        cases hb : Text.parseUint 16 b with
        | none => simp
        | some y =>
          have hx := (parseUint_eq_some_iff.1 ha).1
          have hy := (parseUint_eq_some_iff.1 hb).1
          simp only [GoSem.mkVersion, GoSem.toUint16]
          rw [Nat.mod_eq_of_lt (by simpa using hx), Nat.mod_eq_of_lt (by simpa using hy)]
    · simp

end Ysshra.Bridge.Param

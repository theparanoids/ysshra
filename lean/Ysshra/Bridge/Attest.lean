import Ysshra.Gen.Attest
import Ysshra.Model.Attest
/-
Bridge for attestation/yubiattest: regenerated tables, algorithm switch and the pinned statement
lists of the functions the model transliterates.
-/
namespace Ysshra.Bridge.Attest
open Ysshra.Pkcs1 Ysshra.Attest

/-- the two digest-identifier tables, restricted to the four supported hashes, are the RFC 8017
    DigestInfo prefixes with and without the NULL parameter -/
theorem prefixes_bridge : ∀ h ∈ [3, 5, 6, 7],
    Gen.Attest.hashPrefixes1.lookup h = prefixNull h ∧ Gen.Attest.hashPrefixes2.lookup h = prefixNoNull h := by
  decide

/-- the index arithmetic of `verifyPKCS1v15` relies on it; stated for every hash the two tables list
    (`checkSignature` reaches 3, 5, 6 and 7 only) -/
theorem prefix2_le_prefix1 : ∀ h ∈ [2, 3, 4, 5, 6, 7, 8, 9],
    ((Gen.Attest.hashPrefixes2.lookup h).map List.length).getD 0 ≤
    ((Gen.Attest.hashPrefixes1.lookup h).map List.length).getD 0 := by decide

theorem algo_bridge (algo : Nat) : Gen.Attest.algoSwitch algo = algoSpec algo := by
  unfold Gen.Attest.algoSwitch algoSpec
  simp only [Bool.or_eq_true, beq_iff_eq, or_assoc]

theorem keyTypes_bridge : Gen.Attest.keyTypes = [c!"*rsa.PublicKey"] := by rfl
theorem last_bridge : Gen.Attest.checkSignatureLast = c!"return x509.ErrUnsupportedAlgorithm" := by rfl

theorem attestSteps_bridge : Gen.Attest.attestSteps =
    [c!"if _, err := f9Cert.Verify(x509.VerifyOptions{Roots: a.roots}); err != nil { return err }",
     c!"return checkSignature(attestCert.SignatureAlgorithm, attestCert.RawTBSCertificate, attestCert.Signature, f9Cert.PublicKey)"] := by rfl

/-- `verifyPKCS1v15` is, statement for statement, what `Pkcs1.verifyEM` / `Pkcs1.verify` transliterate -/
theorem verifyStmts_bridge : Gen.Attest.verifyStmts =
    [c!"hashLen, prefix1, prefix2, err := pkcs1v15HashInfo(hash, len(hashed))",
     c!"if err != nil { return err }",
     c!"tLen1 := len(prefix1) + hashLen",
     c!"tLen2 := len(prefix2) + hashLen",
     c!"k := (pub.N.BitLen() + 7) / 8",
     c!"if k < tLen1+11 { return rsa.ErrVerification }",
     c!"c := new(big.Int).SetBytes(sig)",
     c!"m := encrypt(new(big.Int), pub, c)",
     c!"em := leftPad(m.Bytes(), k)",
     c!"ok := subtle.ConstantTimeByteEq(em[0], 0)",
     c!"ok &= subtle.ConstantTimeByteEq(em[1], 1)",
     c!"ok &= subtle.ConstantTimeCompare(em[k-hashLen:k], hashed)",
     c!"prefix1ok := subtle.ConstantTimeCompare(em[k-tLen1:k-hashLen], prefix1)",
     c!"prefix2ok := subtle.ConstantTimeCompare(em[k-tLen2:k-hashLen], prefix2)",
     c!"prefix1ok &= subtle.ConstantTimeByteEq(em[k-tLen1-1], 0)",
     c!"prefix2ok &= subtle.ConstantTimeByteEq(em[k-tLen2-1], 0)",
     c!"ok &= (prefix1ok | prefix2ok)",
     c!"var correctTLen int",
     c!"switch { case prefix1ok == 1: correctTLen = tLen1 case prefix2ok == 1: correctTLen = tLen2 }",
     c!"for i := 2; i < k-correctTLen-1; i++ { ok &= subtle.ConstantTimeByteEq(em[i], 0xff) }",
     c!"if ok != 1 { return rsa.ErrVerification }",
     c!"return nil"] := by rfl

theorem leftPad_bridge : Gen.Attest.leftPadStmts =
    [c!"n := len(input)", c!"if n > size { n = size }", c!"out = make([]byte, size)",
     c!"copy(out[len(out)-n:], input)", c!"return"] := by rfl

theorem modhex_bridge :
    Gen.Attest.modHexMap = modHexMap ∧ Gen.Attest.serialOID = serialOID ∧
    Gen.Attest.serialLens = [3, 4] ∧ Gen.Attest.serialSliceFrom = 2 ∧
    Gen.Attest.serialLenGuard = c!"len(ext.Value) < 2" := ⟨by rfl, by rfl, by rfl, by rfl, by rfl⟩

end Ysshra.Bridge.Attest

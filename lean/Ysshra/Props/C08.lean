import Ysshra.Lemmas.Shim
/-
C08 — a locked shim agent discloses and changes nothing; only the passphrase unlocks.
-/
namespace Ysshra
namespace C08
open Shim

/-- the operations the statement lists as refused while locked: signing, listing signers, adding,
    removing, removing all, adding hardware certificates, locking again and closing -/
def refusedWhenLocked : Op → Bool
  | .signers | .sign _ | .add _ | .addHardCert _ _ | .remove _ | .removeAll | .lock _ | .close => true
  | _ => false

/-- While locked: listing returns the empty list, every other listed operation fails, and none
    of them changes the shim or the underlying agent — at any time, under any faults. -/
theorem c08_locked_ops (s : State) (now : Nat) (f : Faults) (op : Op) (hl : s.locked = true) :
    (op = .list → step s now f op = (s, .listing [])) ∧
    (refusedWhenLocked op = true →
      (step s now f op).1 = s ∧
      ((step s now f op).2 = .err ∨ (step s now f op).2 = .signed .err)) := by
  constructor
  · intro h; subst h; simp [step, hl]
  · intro h
    cases op <;> simp [refusedWhenLocked] at h <;> simp [step, hl]

/-- Closing: refused while locked (the connection to the underlying agent stays open, nothing
    changes); on an unlocked shim with an open connection it succeeds and closes the connection. -/
theorem c08_close (s : State) (now : Nat) (f : Faults) :
    (s.locked = true → step s now f .close = (s, .err)) ∧
    (s.locked = false → s.u.closed = false →
      (step s now f .close).2 = .ok ∧ (step s now f .close).1.u.closed = true ∧
      (step s now f .close).1.locked = false ∧ (step s now f .close).1.certs = s.certs ∧
      (step s now f .close).1.u.idents = s.u.idents) := by
  constructor
  · intro hl; simp [step, hl]
  · intro hl hc; simp [step, hl, hc]

/-- Unlocking with a wrong passphrase fails and leaves everything as it was. -/
theorem c08_unlock_wrong (s : State) (now : Nat) (p : Bytes) (hl : s.locked = true)
    (hu : s.u.locked = true) (hc : s.u.closed = false) (hp : p ≠ s.u.pass) :
    step s now noFaults (.unlock p) = (s, .err) := by
  simp only [step]
  rw [if_neg (by simp [hl]), UAgent.unlock_noFaults s.u p hc hu, if_neg hp]

/-- Unlocking with the right passphrase succeeds and restores exactly the pre-lock view:
    certificate table, cache and underlying identities are untouched. -/
theorem c08_unlock_right (s : State) (now : Nat) (hl : s.locked = true) (hu : s.u.locked = true)
    (hc : s.u.closed = false) :
    step s now noFaults (.unlock s.u.pass) =
      ({ s with locked := false, u := { s.u with locked := false, pass := [] } }, .ok) := by
  simp only [step]
  rw [if_neg (by simp [hl]), UAgent.unlock_noFaults s.u _ hc hu, if_pos rfl]

/-- Unlocking an unlocked agent is an error. -/
theorem c08_unlock_unlocked (s : State) (now : Nat) (f : Faults) (p : Bytes) (hl : s.locked = false) :
    step s now f (.unlock p) = (s, .err) := by
  simp [step, hl]

/-- A lock or unlock that the underlying agent refuses (or that does not reach it) leaves the
    shim's lock state unchanged. -/
theorem c08_refused (s : State) (now : Nat) (f : Faults) (p : Bytes) :
    ((step s now f (.lock p)).2 = .err → (step s now f (.lock p)).1.locked = s.locked) ∧
    ((step s now f (.unlock p)).2 = .err → (step s now f (.unlock p)).1.locked = s.locked) := by
  -- `.err` comes from the shim's own gate (the state is `s`) or from the underlying agent's refusal,
  -- and that branch writes only `u`
  constructor
  · simp only [step]
    split
    · exact fun _ => rfl
    · rcases s.u.lock f p with ⟨u', _ | _⟩
      · exact fun _ => rfl
      · exact fun h => by cases h
  · simp only [step]
    split
    · exact fun _ => rfl
    · rcases s.u.unlock f p with ⟨u', _ | _⟩
      · exact fun _ => rfl
      · exact fun h => by cases h

/-- a lock succeeds only if the underlying agent accepted it, and then both are locked with the
    given passphrase -/
theorem c08_lock_ok (s : State) (now : Nat) (f : Faults) (p : Bytes)
    (h : (step s now f (.lock p)).2 = .ok) :
    s.locked = false ∧ (step s now f (.lock p)).1.locked = true ∧
    (step s now f (.lock p)).1.u.locked = true ∧ (step s now f (.lock p)).1.u.pass = p ∧
    (step s now f (.lock p)).1.certs = s.certs ∧ (step s now f (.lock p)).1.cache = s.cache ∧
    (step s now f (.lock p)).1.u.idents = s.u.idents := by
  simp only [step] at h ⊢
  split at h
  · cases h
  · rename_i hl
    cases hr : s.u.lock f p with
    | mk u' ok =>
      rw [hr] at h
      cases ok with
      | false => cases h
      | true =>
        have hu := UAgent.lock_ok s.u f p (by rw [hr])
        rw [hr] at hu
        subst hu
        simp [hl]

/-- operations of clients of the shim (not somebody else talking to the underlying agent) -/
def clientOp : Op → Bool
  | .uAdd _ | .uRemove _ | .uRemoveAll => false
  | _ => true

def runOps (s : State) (now : Nat) : List Op → State
  | [] => s
  | op :: r => runOps (step s now noFaults op).1 now r

/-- History form: between a successful lock with passphrase `p` and the unlock with `p`, any
    sequence of client operations that does not itself unlock with `p` leaves the identities and
    certificate tables exactly as they were; unlocking with `p` then restores the pre-lock view. -/
theorem c08_locked_history (s : State) (now : Nat) (p : Bytes) (ops : List Op)
    (hl : s.locked = true) (hu : s.u.locked = true) (hc : s.u.closed = false) (hp : s.u.pass = p)
    (hops : ∀ op ∈ ops, clientOp op = true ∧ op ≠ .unlock p) :
    runOps s now ops = s := by
  induction ops with
  | nil => rfl
  | cons op r ih =>
    have hop := hops op (List.mem_cons_self ..)
    have hstep : (step s now noFaults op).1 = s := by
      cases op with
      | unlock q =>
        have hq : q ≠ s.u.pass := by
          intro h; apply hop.2; rw [h, hp]
        rw [c08_unlock_wrong s now q hl hu hc hq]
      | uAdd _ | uRemove _ | uRemoveAll => cases hop.1
      | forward req => simp [step, hc, noFaults]   -- relayed, nothing in the shim changes
      | _ => simp [step, hl]
    simp only [runOps, hstep]
    exact ih (fun o ho => hops o (List.mem_cons_of_mem _ ho))

theorem c08_unlock_restores (s : State) (now : Nat) (p : Bytes) (ops : List Op)
    (hl : s.locked = true) (hu : s.u.locked = true) (hc : s.u.closed = false) (hp : s.u.pass = p)
    (hops : ∀ op ∈ ops, clientOp op = true ∧ op ≠ .unlock p) :
    let s' := (step (runOps s now ops) now noFaults (.unlock p)).1
    s'.locked = false ∧ s'.certs = s.certs ∧ s'.cache = s.cache ∧ s'.u.idents = s.u.idents ∧
    s'.u.locked = false := by
  rw [c08_locked_history s now p ops hl hu hc hp hops, ← hp, c08_unlock_right s now hl hu hc]
  simp

/-- Non-vacuity: a locked agent holding a hardware certificate and an underlying key. -/
example :
    let c : Cert := ⟨1, 1, 0, 2 ^ 64 - 1, true, some [0x54]⟩
    let s : State := ⟨[⟨c, [0x54]⟩], [], true, false, ⟨[⟨.key 1, []⟩], true, [0x70], false⟩⟩
    (step s 1000 noFaults (.sign (.cert c))).2 = .signed .err ∧
    (step s 1000 noFaults (.unlock [0x70])).2 = .ok := by decide

end C08
end Ysshra

import Ysshra.Gen.SnapYubi
/-
Pinned snapshot of Gen.SnapYubi (see extract/snap.go): the regenerated statements of the source files
equal, declaration by declaration, what the hand-written models and harnesses were written against.
`by rfl` and not the term `rfl`: the tactic compares the two literals directly and is half as dear to check.
-/
set_option maxRecDepth 100000
namespace Ysshra.Bridge.SnapYubi
open Ysshra

theorem agent_yubiagent_server_pinned : Gen.SnapYubi.agent_yubiagent_server = ([
  (c!"type", [c!"server struct { shimagent.ShimAgent pivtoolpath string remote bool }"]),
  (c!"NewServer func(address string, remote bool) (YubiAgent, error)", [c!"var srv *server", c!"shimAgent, err := shimagent.New( shimagent.Option{ Address: address, NoUpstream: false, })", c!"if err != nil { return nil, err }", c!"var path string", c!"if !remote { path, err = getPivToolPath() if err != nil { return nil, err } }", c!"srv = &server{ shimAgent, path, remote, }", c!"return srv, nil"]),
  (c!"(*server).ListSlots func() (slots []string, err error)", [c!"if s.remote { return nil, errors.New(\"yubiagent: ListSlots is not supported in remote mode\") }", c!"output, err := exec.Command(s.pivtoolpath, \"-a\", \"status\").Output()", c!"if err != nil { return nil, err }", c!"for _, line := range strings.Split(string(output), \"\\n\") { if len(line) >= 7 && line[:4] == \"Slot\" { slots = append(slots, line[5:7]) } }", c!"return slots, nil"]),
  (c!"(*server).ReadSlot func(slot string) (cert *x509.Certificate, err error)", [c!"if s.remote { return nil, errors.New(\"yubiagent: ReadSlot is not supported in remote mode\") }", c!"output, err := exec.Command(s.pivtoolpath, \"-a\", \"read-certificate\", \"-s\", slot).Output()", c!"if err != nil { return nil, err }", c!"return utils.ParsePEMCertificate(output)"]),
  (c!"(*server).AttestSlot func(slot string) (cert *x509.Certificate, err error)", [c!"if s.remote { return nil, errors.New(\"yubiagent: AttestSlot is not supported in remote mode\") }", c!"output, err := exec.Command(s.pivtoolpath, \"-a\", \"attest\", \"-s\", slot).Output()", c!"if err != nil { return nil, err }", c!"return utils.ParsePEMCertificate(output)"]),
  (c!"(*server).AddSmartcardKey func(readerId string, pin []byte, lifetime time.Duration, confirmBeforeUse bool) error", [c!"return errors.New(\"yubiagent: AddSmartcardKey is not implemented in server\")"]),
  (c!"(*server).RemoveSmartcardKey func(readerId string, pin []byte) error", [c!"return errors.New(\"yubiagent: RemoveSmartcardKey in not implemented in server\")"]),
  (c!"ServeAgent func(agent YubiAgent, c io.ReadWriter) error", [c!"for { req, err := read(c) if err == io.EOF { return nil } if err != nil { return err } if len(req) == 0 { return errors.New(\"yubiagent: empty request\") } if yubiServer, ok := agent.(*server); ok { if shimServer, ok := yubiServer.ShimAgent.(*shimagent.Server); ok { if err := shimServer.Broadcast(req[0]); err != nil { return err } } } switch req[0] { case AgentMessageAddHardCert: var key ssh.PublicKey var comment string if key, err = ssh.ParsePublicKey(req[1:]); err != nil { var msg agentAddHardCertReq if err = ssh.Unmarshal(req, &msg); err != nil { return err } if key, err = ssh.ParsePublicKey(msg.KeyBlob); err != nil { return err } comment = msg.Comment } var writeErr error if err = agent.AddHardCert(key, comment); err != nil { writeErr = write(c, []byte(err.Error())) } else { writeErr = write(c, []byte(\"SUCCESS\")) } if writeErr != nil { log.Warn().Err(writeErr).Msg(\"failed to write response to the connection\") } case AgentMessageListSlots: var msg agentListSlotsResp msg.Slots, err = agent.ListSlots() if err != nil { msg.Err = err.Error() } if err = write(c, ssh.Marshal(&msg)); err != nil { return err } case AgentMessageReadSlot: var msg agentReadSlotResp var cert *x509.Certificate cert, err = agent.ReadSlot(string(req)[1:]) if cert != nil { block := &pem.Block{Type: \"CERTIFICATE\", Bytes: cert.Raw} msg.Cert = pem.EncodeToMemory(block) } if err != nil { msg.Err = err.Error() } if err = write(c, ssh.Marshal(&msg)); err != nil { return err } case AgentMessageAttestSlot: var msg agentAttestSlotResp var cert *x509.Certificate cert, err = agent.AttestSlot(string(req)[1:]) if cert != nil { block := &pem.Block{Type: \"CERTIFICATE\", Bytes: cert.Raw} msg.Cert = pem.EncodeToMemory(block) } if err != nil { msg.Err = err.Error() } if err = write(c, ssh.Marshal(&msg)); err != nil { return err } case AgentMessageWait: if len(req) < 2 { return errors.New(\"yubiagent: malformed wait request\") } var writeErr error if err = agent.Wait(req[1]); err != nil { writeErr = write(c, []byte(err.Error())) } else { writeErr = write(c, []byte(\"SUCCESS\")) } if writeErr != nil { log.Warn().Err(writeErr).Msg(\"failed to write response to the connection\") } case AgentMessageLock, AgentMessageUnlock, AgentMessageSignRequest, AgentMessageAddIdentity, AgentMessageAddIDConstrained, AgentMessageRemoveIdentity, AgentMessageRemoveAllIdentities, AgentMessageRequestV1Identities, AgentMessageRequestIdentities: forwarder := newForwarder(req, c) err = serveStandardRequest(agent, forwarder) if err != nil && err != io.EOF { return err } default: resp, err := agent.Forward(req) if err != nil { return err } if err := write(c, resp); err != nil { return err } } }"]),
  (c!"serveStandardRequest func(agent sshagent.Agent, f forwarder) (err error)", [c!"defer func() { if r := recover(); r != nil { err = fmt.Errorf(\"yubiagent: malformed agent request: %v\", r) } }()", c!"return sshagent.ServeAgent(agent, f)"])
] : List (Str × List Str)) := by rfl

theorem agent_yubiagent_client_pinned : Gen.SnapYubi.agent_yubiagent_client = ([
  (c!"type", [c!"client struct { conn net.Conn connLock sync.Mutex agent agent.ExtendedAgent }"]),
  (c!"NewClient func(address string) (YubiAgent, error)", [c!"conn, err := utils.GetConn(address)", c!"if err != nil { return nil, err }", c!"return &client{ conn: conn, connLock: sync.Mutex{}, agent: agent.NewClient(conn), }, nil"]),
  (c!"NewClientFromConn func(c net.Conn) (YubiAgent, error)", [c!"if c == nil { return nil, errors.New(\"cannot create new client from empty net.Conn\") }", c!"return &client{ conn: c, connLock: sync.Mutex{}, agent: agent.NewClient(c), }, nil"]),
  (c!"(*client).call func(req []byte) (resp []byte, err error)", [c!"c.connLock.Lock()", c!"defer c.connLock.Unlock()", c!"if err = write(c.conn, req); err != nil { return nil, err }", c!"return read(c.conn)"]),
  (c!"(*client).Forward func(req []byte) (resp []byte, err error)", [c!"return c.call(req)"]),
  (c!"(*client).AddHardCert func(key ssh.PublicKey, comment string) error", [c!"if key == nil { return errors.New(\"null key provided\") }", c!"var msg = agentAddHardCertReq{ KeyBlob: key.Marshal(), Comment: comment, }", c!"resp, err := c.call(ssh.Marshal(msg))", c!"if err != nil { return err }", c!"if string(resp) != \"SUCCESS\" { return errors.New(string(resp)) }", c!"return nil"]),
  (c!"(*client).ListSlots func() (slots []string, err error)", [c!"resp, err := c.call([]byte{AgentMessageListSlots})", c!"if err != nil { return nil, err }", c!"var msg agentListSlotsResp", c!"if err = ssh.Unmarshal(resp, &msg); err != nil { return nil, err }", c!"if msg.Err != \"\" { err = errors.New(msg.Err) }", c!"return msg.Slots, err"]),
  (c!"(*client).ReadSlot func(slot string) (cert *x509.Certificate, err error)", [c!"req := append([]byte{AgentMessageReadSlot}, []byte(slot)...)", c!"resp, err := c.call(req)", c!"if err != nil { return nil, err }", c!"var msg agentReadSlotResp", c!"if err = ssh.Unmarshal(resp, &msg); err != nil { return nil, err }", c!"if msg.Err != \"\" { return nil, errors.New(msg.Err) }", c!"return utils.ParsePEMCertificate(msg.Cert)"]),
  (c!"(*client).AttestSlot func(slot string) (cert *x509.Certificate, err error)", [c!"req := append([]byte{AgentMessageAttestSlot}, []byte(slot)...)", c!"resp, err := c.call(req)", c!"if err != nil { return nil, err }", c!"var msg agentReadSlotResp", c!"if err = ssh.Unmarshal(resp, &msg); err != nil { return nil, err }", c!"if msg.Err != \"\" { return nil, errors.New(msg.Err) }", c!"return utils.ParsePEMCertificate(msg.Cert)"]),
  (c!"(*client).Wait func(agentMsg byte) error", [c!"req := append([]byte{AgentMessageWait}, agentMsg)", c!"resp, err := c.call(req)", c!"if err != nil { return err }", c!"if string(resp) != \"SUCCESS\" { return errors.New(string(resp)) }", c!"return nil"]),
  (c!"(*client).AddSmartcardKey func(readerID string, pin []byte, lifetime time.Duration, confirmBeforeUse bool) error", [c!"var constraints []byte", c!"if lifetime != 0 { secs := uint32(lifetime.Seconds()) constraints = append(constraints, ssh.Marshal(agentLifetimeConstraint{secs})...) }", c!"if confirmBeforeUse { constraints = append(constraints, agentConstrainConfirm) }", c!"req := ssh.Marshal(agentAddSmartcardKeyReq{ ID: readerID, PIN: pin, Constraints: constraints, })", c!"resp, err := c.call(req)", c!"if err != nil { return err }", c!"if _, err := rand.Read(req); err != nil { return err }", c!"if len(resp) < 1 { return errors.New(\"yubiagent: empty packet\") }", c!"if resp[0] != agentSuccess { return errors.New(\"yubiagent: could not add smartcard \" + readerID + \": agent failure\") }", c!"return nil"]),
  (c!"(*client).RemoveSmartcardKey func(readerID string, pin []byte) error", [c!"req := ssh.Marshal(agentRemoveSmartcardKeyReq{ ID: readerID, PIN: pin, })", c!"resp, err := c.call(req)", c!"if err != nil { return err }", c!"if _, err := rand.Read(req); err != nil { return err }", c!"if len(resp) < 1 { return errors.New(\"yubiagent: empty packet\") }", c!"if resp[0] != agentSuccess { return errors.New(\"yubiagent: could not remove smartcard \" + readerID + \": agent failure\") }", c!"return nil"]),
  (c!"(*client).Close func() error", [c!"return c.conn.Close()"]),
  (c!"(*client).List func() ([]*agent.Key, error)", [c!"c.connLock.Lock()", c!"defer c.connLock.Unlock()", c!"return c.agent.List()"]),
  (c!"(*client).Sign func(key ssh.PublicKey, data []byte) (*ssh.Signature, error)", [c!"c.connLock.Lock()", c!"defer c.connLock.Unlock()", c!"if key == nil { return nil, errors.New(\"null key provided\") }", c!"return c.agent.Sign(key, data)"]),
  (c!"(*client).SignWithFlags func(key ssh.PublicKey, data []byte, flags agent.SignatureFlags) (*ssh.Signature, error)", [c!"c.connLock.Lock()", c!"defer c.connLock.Unlock()", c!"if key == nil { return nil, errors.New(\"null key provided\") }", c!"return c.agent.SignWithFlags(key, data, flags)"]),
  (c!"(*client).Add func(key agent.AddedKey) error", [c!"c.connLock.Lock()", c!"defer c.connLock.Unlock()", c!"return c.agent.Add(key)"]),
  (c!"(*client).Remove func(key ssh.PublicKey) error", [c!"c.connLock.Lock()", c!"defer c.connLock.Unlock()", c!"if key == nil { return errors.New(\"null key provided\") }", c!"return c.agent.Remove(key)"]),
  (c!"(*client).RemoveAll func() error", [c!"c.connLock.Lock()", c!"defer c.connLock.Unlock()", c!"return c.agent.RemoveAll()"]),
  (c!"(*client).Lock func(passphrase []byte) error", [c!"c.connLock.Lock()", c!"defer c.connLock.Unlock()", c!"return c.agent.Lock(passphrase)"]),
  (c!"(*client).Unlock func(passphrase []byte) error", [c!"c.connLock.Lock()", c!"defer c.connLock.Unlock()", c!"return c.agent.Unlock(passphrase)"]),
  (c!"(*client).Signers func() ([]ssh.Signer, error)", [c!"c.connLock.Lock()", c!"defer c.connLock.Unlock()", c!"return c.agent.Signers()"]),
  (c!"(*client).Extension func(extensionType string, contents []byte) ([]byte, error)", [c!"c.connLock.Lock()", c!"defer c.connLock.Unlock()", c!"return c.agent.Extension(extensionType, contents)"])
] : List (Str × List Str)) := by rfl

theorem agent_yubiagent_io_pinned : Gen.SnapYubi.agent_yubiagent_io = ([
  (c!"const", [c!"maxAgentResponseBytes = 16 << 20"]),
  (c!"read func(c io.Reader) (data []byte, err error)", [c!"var length [4]byte", c!"if _, err := io.ReadFull(c, length[:]); err != nil { return nil, err }", c!"l := binary.BigEndian.Uint32(length[:])", c!"if l > maxAgentResponseBytes { return nil, fmt.Errorf(\"data size too large: %d\", l) }", c!"data = make([]byte, l)", c!"if _, err := io.ReadFull(c, data); err != nil { return nil, err }", c!"return data, nil"]),
  (c!"write func(c io.Writer, data []byte) (err error)", [c!"if len(data) > maxAgentResponseBytes { return fmt.Errorf(\"data size too large: %d\", len(data)) }", c!"var length [4]byte", c!"binary.BigEndian.PutUint32(length[:], uint32(len(data)))", c!"if _, err := c.Write(length[:]); err != nil { return err }", c!"if _, err := c.Write(data); err != nil { return err }", c!"return nil"])
] : List (Str × List Str)) := by rfl

theorem agent_yubiagent_message_pinned : Gen.SnapYubi.agent_yubiagent_message = ([
  (c!"const", [c!"AgentMessageAddHardCert = 31", c!"AgentMessageListSlots = 32", c!"AgentMessageReadSlot = 33", c!"AgentMessageAttestSlot = 34", c!"AgentMessageWait = 35"]),
  (c!"type", [c!"agentAddHardCertReq struct { KeyBlob []byte `sshtype:\"31\"` Comment string }"]),
  (c!"type", [c!"agentListSlotsResp struct { Slots []string Err string }"]),
  (c!"type", [c!"agentReadSlotResp struct { Cert []byte Err string }"]),
  (c!"type", [c!"agentAttestSlotResp struct { Cert []byte Err string }"]),
  (c!"type", [c!"agentLifetimeConstraint struct { LifetimeSecs uint32 `sshtype:\"1\"` }"]),
  (c!"const", [c!"AgentMessageAddSmartcardKey = 20", c!"AgentMessageRemoveSmartcardKey = 21", c!"AgentMessageAddSmartcardKeyConstrained = 26", c!"agentConstrainConfirm = 2", c!"agentFailure = 5", c!"agentSuccess = 6"]),
  (c!"type", [c!"agentAddSmartcardKeyReq struct { ID string `sshtype:\"26\"` PIN []byte Constraints []byte `ssh:\"rest\"` }"]),
  (c!"type", [c!"agentRemoveSmartcardKeyReq struct { ID string `sshtype:\"21\"` PIN []byte }"]),
  (c!"const", [c!"AgentMessageRequestV1Identities = 1", c!"AgentMessageRequestIdentities = 11", c!"AgentMessageSignRequest = 13", c!"AgentMessageAddIdentity = 17", c!"AgentMessageRemoveIdentity = 18", c!"AgentMessageRemoveAllIdentities = 19", c!"AgentMessageAddIDConstrained = 25", c!"AgentMessageLock = 22", c!"AgentMessageUnlock = 23"]),
  (c!"type", [c!"forwarder struct { in io.Reader out io.Writer }"]),
  (c!"newForwarder func(req []byte, resp io.Writer) forwarder", [c!"buffer := new(bytes.Buffer)", c!"if err := write(buffer, req); err != nil { log.Warn().Err(err).Msg(\"failed to create forwarder when writing the buffer to resp\") }", c!"return forwarder{in: buffer, out: resp}"]),
  (c!"(forwarder).Read func(p []byte) (n int, err error)", [c!"return f.in.Read(p)"]),
  (c!"(forwarder).Write func(p []byte) (n int, err error)", [c!"return f.out.Write(p)"])
] : List (Str × List Str)) := by rfl

theorem agent_yubiagent_agent_pinned : Gen.SnapYubi.agent_yubiagent_agent = ([
  (c!"type", [c!"YubiAgent interface { shimagent.ShimAgent ListSlots() (slots []string, err error) ReadSlot(slot string) (cert *x509.Certificate, err error) AttestSlot(slot string) (cert *x509.Certificate, err error) AddSmartcardKey(readerId string, pin []byte, lifetime time.Duration, confirmBeforeUse bool) error RemoveSmartcardKey(readerId string, pin []byte) error }"])
] : List (Str × List Str)) := by rfl

theorem agent_yubiagent_server_notwin_pinned : Gen.SnapYubi.agent_yubiagent_server_notwin = ([
  (c!"const", [c!"pivTool = \"yubico-piv-tool\""]),
  (c!"getPivToolPath func() (string, error)", [c!"return exec.LookPath(pivTool)"])
] : List (Str × List Str)) := by rfl

end Ysshra.Bridge.SnapYubi

import Ysshra.Model.Json
namespace Ysshra

namespace Message
/-- the range of Go's `int` and `int64` -/
def inI64 (i : Int) : Prop := -(2^63 : Int) ≤ i ∧ i < 2^63
end Message

theorem decStrElems_map_str (bk ps : List Str) : decStrElems bk (ps.map JVal.str) = some ps := by
  induction ps generalizing bk with
  | nil => rfl
  | cons p ps ih => simp [decStrElems, ih]

theorem decStrSlice_map_str (ps : List Str) :
    decStrSlice [] (.arr (ps.map JVal.str)) = some (some ps, ps) := by
  cases ps with
  | nil => rfl
  | cons q ps =>
    have := decStrElems_map_str [] (q :: ps)
    rw [List.map_cons] at this
    simp [decStrSlice, this]

theorem anyFailsList_map_str (ps : List Str) : anyFailsList (ps.map JVal.str) = false := by
  induction ps with
  | nil => rfl
  | cons p ps ih => simp [anyFailsList, JVal.anyFails, ih]

theorem JNum.asInt_ofInt (i : Int) (h : Message.inI64 i) : (JNum.ofInt i).asInt 64 = some i := by
  -- sign and magnitude put together again
  have hv : (if decide (i < 0) = true then -((i.natAbs : Nat) : Int) else i.natAbs) = i := by
    simp only [decide_eq_true_eq]
    omega
  unfold JNum.asInt JNum.ofInt
  simp only [hv]
  exact if_pos h

theorem JNum.asUint_ofNat {bits : Nat} (n : Nat) (h : n < 2 ^ bits) :
    (JNum.ofInt (n : Int)).asUint bits = some n := by
  unfold JNum.asUint JNum.ofInt
  simp [h]

theorem decInt_ofInt {cur i : Int} (h : Message.inI64 i) :
    decInt 64 cur (.num (.ofInt i)) = some i :=
  JNum.asInt_ofInt i h

end Ysshra

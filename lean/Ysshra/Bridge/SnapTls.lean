import Ysshra.Gen.SnapTls
/-
Pinned snapshot of Gen.SnapTls (see extract/snap.go): the regenerated statements of the source files
equal, declaration by declaration, what the hand-written models and harnesses were written against.
`by rfl` and not the term `rfl`: the tactic compares the two literals directly and is half as dear to check.
-/
set_option maxRecDepth 100000
namespace Ysshra.Bridge.SnapTls
open Ysshra

theorem tlsutils_config_pinned : Gen.SnapTls.tlsutils_config = ([
  (c!"TLSClientConfiguration func(certPath, keyPath string, caCertPaths []string) (*tls.Config, error)", [c!"reloader, err := certreload.NewCertReloader( certreload.CertReloadConfig{ CertKeyGetter: func() ([]byte, []byte, error) { certPEMBlock, err := os.ReadFile(certPath) if err != nil { return nil, nil, err } keyPEMBlock, err := os.ReadFile(keyPath) if err != nil { return nil, nil, err } return certPEMBlock, keyPEMBlock, nil }, PollInterval: 6 * time.Hour, })", c!"if err != nil { return nil, fmt.Errorf(\"unable to get client cert reloader: %s\", err) }", c!"caCertPool := x509.NewCertPool()", c!"for _, caCertFile := range caCertPaths { caCert, err := os.ReadFile(caCertFile) if err != nil { return nil, fmt.Errorf(`failed to read TLS server CA certificate %q, err:%v`, caCertFile, err) } if ok := caCertPool.AppendCertsFromPEM(caCert); !ok { return nil, fmt.Errorf(`failed to parse certificate %q`, caCertFile) } }", c!"cfg := &tls.Config{ MinVersion: tls.VersionTLS12, NextProtos: []string{\"h2\", \"http/1.1\"}, CipherSuites: standardCipherSuites(), SessionTicketsDisabled: true, GetClientCertificate: reloader.GetClientCertificate, RootCAs: caCertPool, }", c!"return cfg, nil"]),
  (c!"standardCipherSuites func() []uint16", [c!"return []uint16{ tls.TLS_AES_128_GCM_SHA256, tls.TLS_AES_256_GCM_SHA384, tls.TLS_CHACHA20_POLY1305_SHA256, tls.TLS_ECDHE_ECDSA_WITH_AES_128_GCM_SHA256, tls.TLS_ECDHE_ECDSA_WITH_AES_256_GCM_SHA384, tls.TLS_ECDHE_ECDSA_WITH_CHACHA20_POLY1305_SHA256, tls.TLS_ECDHE_RSA_WITH_CHACHA20_POLY1305_SHA256, tls.TLS_ECDHE_RSA_WITH_AES_128_GCM_SHA256, tls.TLS_ECDHE_RSA_WITH_AES_256_GCM_SHA384, }"])
] : List (Str × List Str)) := by rfl

theorem crypki_signer_pinned : Gen.SnapTls.crypki_signer = ([
  (c!"type", [c!"Signer struct { endpoints []string dialOptions []grpc.DialOption }"]),
  (c!"NewSignerWithGensignConf func(gensignConf config.GensignConfig) (*Signer, error)", [c!"conf, err := decodeSignerConfig(gensignConf.SignerConfig)", c!"if err != nil { return nil, fmt.Errorf(\"failed to decode signer config, err: %v\", err) }", c!"return NewSigner(conf)"]),
  (c!"NewSigner func(conf SignerConfig) (*Signer, error)", [c!"conf.populate()", c!"if err := validate.Validate().Struct(conf); err != nil { return nil, fmt.Errorf(\"failed to validate signer config, err: %v\", err) }", c!"tlsCfg, err := tlsutils.TLSClientConfiguration(conf.TLSClientCertFile, conf.TLSClientKeyFile, conf.TLSCACertFiles)", c!"if err != nil { return nil, fmt.Errorf(\"failed to parse tls config, err :%v\", err) }", c!"clientCreds := credentials.NewTLS(tlsCfg)", c!"endpoints := make([]string, len(conf.CrypkiEndpoints))", c!"for i, endpoint := range conf.CrypkiEndpoints { endpoints[i] = fmt.Sprintf(\"%s:%d\", endpoint, conf.CrypkiPort) }", c!"dialOptions := []grpc.DialOption{ grpc.WithTransportCredentials(clientCreds), grpc.WithUnaryInterceptor(grpc_retry.UnaryClientInterceptor( grpc_retry.WithMax(conf.Retries), grpc_retry.WithPerRetryTimeout(conf.PerTryTimeout), grpc_retry.WithBackoff(backoff.DefaultConfig.Backoff)), ), grpc.WithStatsHandler(otelgrpc.NewClientHandler()), }", c!"signer := &Signer{ endpoints: endpoints, dialOptions: dialOptions, }", c!"return signer, nil"]),
  (c!"(*Signer).Sign func(ctx context.Context, request *pb.SSHCertificateSigningRequest) (certs []ssh.PublicKey, comments []string, err error)", [c!"if len(s.endpoints) == 0 { return nil, nil, errors.New(\"no crypki endpoint is configured\") }", c!"for _, endpoint := range s.endpoints { certs, comments, err = s.postUserSSHCertificate(ctx, request, endpoint) if err == nil { return } log.Warn().Err(err).Msgf(\"failed to post request to endpoint %q\", endpoint) }", c!"return"]),
  (c!"(*Signer).postUserSSHCertificate func(ctx context.Context, csr *pb.SSHCertificateSigningRequest, endpoint string) (certs []ssh.PublicKey, comments []string, err error)", [c!"const apiName = \"postUserSSHCertificate\"", c!"conn, err := EstablishClientConn(endpoint, s.dialOptions...)", c!"if err != nil { return nil, nil, status.Errorf(status.Code(err), \"%s: failed to establish connection, err: %v\", apiName, err) }", c!"defer conn.Close()", c!"client := pb.NewSigningClient(conn)", c!"out, err := client.PostUserSSHCertificate(ctx, csr)", c!"if err != nil { return nil, nil, fmt.Errorf(\"postUserSSHCertificate: failed to sign user cert, err: %v\", err) }", c!"pubKeys, comments, err := key.GetPublicKeysFromBytes([]byte(out.Key))", c!"if err != nil { return pubKeys, nil, fmt.Errorf(\"postUserSSHCertificate: failed to parse user cert, err: %v\", err) }", c!"return pubKeys, comments, nil"]),
  (c!"(*Signer).Endpoints func() (endpoints []string)", [c!"endpoints = make([]string, len(s.endpoints))", c!"copy(endpoints, s.endpoints)", c!"return"]),
  (c!"(*Signer).DialOptions func() (options []grpc.DialOption)", [c!"options = make([]grpc.DialOption, len(s.dialOptions))", c!"copy(options, s.dialOptions)", c!"return"])
] : List (Str × List Str)) := by rfl

theorem crypki_conf_pinned : Gen.SnapTls.crypki_conf = ([
  (c!"const", [c!"perTryTimeoutDefault = 5 * time.Second", c!"retriesDefault = 3"]),
  (c!"type", [c!"SignerConfig struct { TLSClientKeyFile string `mapstructure:\"tls_client_key_file\" validate:\"required\"` TLSClientCertFile string `mapstructure:\"tls_client_cert_file\" validate:\"required\"` TLSCACertFiles []string `mapstructure:\"tls_ca_cert_files\" validate:\"required\"` CrypkiEndpoints []string `mapstructure:\"crypki_endpoints\" validate:\"required\"` CrypkiPort uint `mapstructure:\"crypki_port\" validate:\"required\"` Retries uint `mapstructure:\"retries\"` PerTryTimeout time.Duration `mapstructure:\"per_try_timeout\"` }"]),
  (c!"(*SignerConfig).populate func()", [c!"if s.Retries == 0 { s.Retries = retriesDefault }", c!"if s.PerTryTimeout <= 0 { s.PerTryTimeout = perTryTimeoutDefault }"]),
  (c!"decodeSignerConfig func(signerConfig map[string]interface{}) (SignerConfig, error)", [c!"var conf SignerConfig", c!"decoderConf := &mapstructure.DecoderConfig{ DecodeHook: mapstructure.StringToTimeDurationHookFunc(), Metadata: nil, Result: &conf, }", c!"decoder, err := mapstructure.NewDecoder(decoderConf)", c!"if err != nil { return conf, err }", c!"if err := decoder.Decode(signerConfig); err != nil { return conf, err }", c!"return conf, nil"])
] : List (Str × List Str)) := by rfl

theorem internal_backoff_backoff_pinned : Gen.SnapTls.internal_backoff_backoff = ([
  (c!"var", [c!"DefaultConfig = Config{ BaseDelay: 2.0 * time.Second, Multiplier: 3.0, MaxDelay: 15.0 * time.Second, Jitter: 0.2, }"]),
  (c!"type", [c!"Config struct { BaseDelay time.Duration Multiplier float64 MaxDelay time.Duration Jitter float64 }"]),
  (c!"(*Config).Backoff func(attempt uint) time.Duration", [c!"if attempt == 0 || bc.BaseDelay == 0 { return bc.BaseDelay }", c!"backoff, max := float64(bc.BaseDelay), float64(bc.MaxDelay)", c!"backoff *= math.Pow(bc.Multiplier, float64(attempt))", c!"backoff = math.Min(backoff, max)", c!"r := rand.New(rand.NewSource(time.Now().UnixNano()))", c!"backoff *= 1 + bc.Jitter*(r.Float64()*2-1)", c!"return time.Duration(backoff)"])
] : List (Str × List Str)) := by rfl

theorem internal_validate_validate_pinned : Gen.SnapTls.internal_validate_validate = ([
  (c!"var", [c!"validate *validator.Validate"]),
  (c!"init func()", [c!"validate = validator.New()"]),
  (c!"Validate func() *validator.Validate", [c!"return validate"])
] : List (Str × List Str)) := by rfl

end Ysshra.Bridge.SnapTls

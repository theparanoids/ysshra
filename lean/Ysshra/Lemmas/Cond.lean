import Ysshra.Model.Cond
/-
`Cond.broadcast` and `Cond.step` by membership: who stays registered and who is released.
-/
namespace Ysshra.Cond

/-- the guard compares with the table size taken modulo 256, which is never more than the size -/
theorem inRange_lt {n : Nat} {c : UInt8} (h : inRange n c = true) : c.toNat < n :=
  Nat.lt_of_lt_of_le (of_decide_eq_true h) (Nat.mod_le n 256)

theorem mem_broadcast_fst {n : Nat} {s : State} {c : UInt8} {w : Tid × UInt8} :
    w ∈ (broadcast n s c).1 ↔ w ∈ s ∧ ¬ (inRange n c = true ∧ w.2 = c) := by
  unfold broadcast
  split <;> simp [*]

theorem mem_broadcast_snd {n : Nat} {s : State} {c : UInt8} {t : Tid} :
    t ∈ (broadcast n s c).2 ↔ inRange n c = true ∧ (t, c) ∈ s := by
  unfold broadcast
  split <;> simp [*]

/-- the waiters a broadcast leaves, as one filter whether or not the code is in range -/
theorem broadcast_fst (n : Nat) (s : State) (c : UInt8) :
    (broadcast n s c).1 = s.filter (fun w => !(inRange n w.2 && w.2 == c)) := by
  unfold broadcast
  split
  · rename_i h
    apply List.filter_congr
    intro w _
    by_cases hw : w.2 = c
    · simp [hw, h]
    · simp [hw]
  · rename_i h
    symm
    apply List.filter_eq_self.2
    intro w _
    by_cases hw : w.2 = c
    · simp [hw, h]
    · simp [hw]

theorem mem_step_fst {n : Nat} {s : State} {e : Event} {w : Tid × UInt8} :
    w ∈ (step n s e).1 ↔ w ∈ (broadcast n s e.code).1 ∨ (e = .wait w.1 w.2 ∧ inRange n w.2 = true) := by
  obtain ⟨t', c'⟩ := w
  cases e with
  | request d => simp [step]
  | wait t c =>
    by_cases h : inRange n c = true
    · simp only [step, h, ↓reduceIte, List.mem_append, List.mem_singleton, Prod.mk.injEq, Event.wait.injEq]
      refine or_congr_right ⟨?_, ?_⟩
      · rintro ⟨rfl, rfl⟩
        exact ⟨⟨rfl, rfl⟩, h⟩
      · rintro ⟨⟨rfl, rfl⟩, _⟩
        exact ⟨rfl, rfl⟩
    · simp only [step, h, Bool.false_eq_true, ↓reduceIte, Event.wait.injEq]
      refine (or_iff_left ?_).symm
      rintro ⟨⟨rfl, rfl⟩, h'⟩
      exact h h'

theorem mem_step_snd {n : Nat} {s : State} {e : Event} {t : Tid} :
    t ∈ (step n s e).2 ↔ t ∈ (broadcast n s e.code).2 ∨ ∃ c, e = .wait t c ∧ inRange n c = false := by
  cases e with
  | request d => simp [step]
  | wait t' c =>
    by_cases h : inRange n c = true
    · simp [step, h]
    · simp only [step, h, Bool.false_eq_true, ↓reduceIte, List.mem_append, List.mem_singleton, Event.wait.injEq]
      refine or_congr_right ⟨?_, ?_⟩
      · rintro rfl
        exact ⟨c, ⟨rfl, rfl⟩, by simpa using h⟩
      · rintro ⟨_, ⟨rfl, _⟩, _⟩
        rfl

end Ysshra.Cond

import Ysshra.Model.Rpc
import Ysshra.Lemmas.Wire
/-
`Serve.handle` branch by branch and the step of `Serve.serve` on an answered frame; on the client
side, what `Rpc` makes of a handled request and of a decoded response, and the round trips of the
smartcard requests, which only `Rpc` encodes.
-/
namespace Ysshra.Serve
open Ysshra Ysshra.Wire

variable (env : Env) (i : Nat)

theorem handle_addHardCert (body : Bytes) :
    handle env i (31 :: body) =
      if env.pkOK body then .replyLogged (textOr (env.addHardCert i body []) success)
      else match decAddHardCert (31 :: body) with
        | none => .fail
        | some (blob, comment) =>
          if env.pkOK blob then .replyLogged (textOr (env.addHardCert i blob comment) success) else .fail := rfl

/-- the client's encoding, when the server does not take it for the legacy format -/
theorem handle_encAddHardCert (blob comment : Bytes) (h1 : blob.length < 2 ^ 32) (h2 : comment.length < 2 ^ 32)
    (hold : env.pkOK (putString blob ++ putString comment) = false) :
    handle env i (encAddHardCert blob comment) =
      if env.pkOK blob then .replyLogged (textOr (env.addHardCert i blob comment) success) else .fail := by
  rw [encAddHardCert, handle_addHardCert, hold, ← encAddHardCert, decAddHardCert_encAddHardCert blob comment h1 h2]
  rfl

theorem handle_listSlots (body : Bytes) :
    handle env i (32 :: body) = .reply (encListSlotsResp (env.listSlots i).1 (errText (env.listSlots i).2)) := rfl

theorem handle_readSlot (slot : Bytes) :
    handle env i (33 :: slot) =
      .reply (encSlotResp (textOr (env.readSlot i slot).1 []) (errText (env.readSlot i slot).2)) := rfl

theorem handle_attestSlot (slot : Bytes) :
    handle env i (34 :: slot) =
      .reply (encSlotResp (textOr (env.attestSlot i slot).1 []) (errText (env.attestSlot i slot).2)) := rfl

theorem handle_wait (c : UInt8) (r : Bytes) :
    handle env i (35 :: c :: r) = .replyLogged (textOr (env.wait i c) success) := rfl

theorem handle_other (code : UInt8) (body : Bytes) (hc : code ∉ ([31, 32, 33, 34, 35] : List UInt8)) :
    handle env i (code :: body) =
      ((if stdCodes.contains code then env.std i (code :: body) else env.forward i (code :: body)).elim
        .fail .reply) := by
  simp only [List.mem_cons, List.not_mem_nil, not_or] at hc
  simp only [handle, hc, ↓reduceIte]
  split
  · cases env.std i (code :: body) <;> rfl
  · cases env.forward i (code :: body) <;> rfl

/-- `h2`: whichever way a write error would be treated -/
theorem serve_step {env : Env} {i f : Nat} {bs r rest b : Bytes} {a : Nat}
    (h1 : readFrame bs = .frame r rest a)
    (h2 : handle env i r = .reply b ∨ handle env i r = .replyLogged b)
    (h3 : b.length ≤ maxAgentResponseBytes) :
    serve env (f + 1) i bs =
      ⟨b :: (serve env f (i + 1) rest).resps, a :: (serve env f (i + 1) rest).allocs,
       (serve env f (i + 1) rest).ending⟩ := by
  have : ¬ b.length > maxAgentResponseBytes := Nat.not_lt.mpr h3
  rw [serve]
  rcases h2 with h2 | h2 <;> simp only [h1, h2, this, ↓reduceIte]

end Ysshra.Serve

namespace Ysshra.Rpc
open Ysshra Ysshra.Wire Ysshra.Serve

variable {env : Env} {i : Nat}

theorem exchange_reply {req b : Bytes} (h : handle env i req = .reply b) : exchange env i req = some b := by
  rw [exchange, h]

theorem exchange_logged {req b : Bytes} (h : handle env i req = .replyLogged b) :
    exchange env i req = some b := by
  rw [exchange, h]

theorem exchange_fail {req : Bytes} (h : handle env i req = .fail) : exchange env i req = none := by
  rw [exchange, h]

/-- the client's reading of a reply that is the agent's error text or, for none, the marker -/
theorem verdict_textOr (e : Option Bytes) :
    (if textOr e success ≠ success then CallRes.err (textOr e success) else .ok ()) =
      match e with
      | none => .ok ()
      | some e => if e = success then .ok () else .err e := by
  cases e with
  | none => simp [textOr]
  | some e =>
    by_cases he : e = success <;> simp [textOr, he]

theorem listSlots_of {resp : Bytes} {slots : List Bytes} {err : Bytes}
    (hh : handle env i [32] = .reply resp) (hd : decListSlotsResp resp = some (slots, err)) :
    listSlots env i = (if err.isEmpty then .ok slots else .err err, slots) := by
  rw [listSlots, exchange_reply hh]
  simp only [listSlotsOf, hd]

theorem slotOp_of {code : UInt8} {slot resp cert err : Bytes}
    (hh : handle env i (code :: slot) = .reply resp) (hd : decSlotResp resp = some (cert, err)) :
    slotOp env i code slot = if err.isEmpty then .ok cert else .err err := by
  simp only [slotOp, exchange_reply hh, hd]

theorem decAddSmartcard_of {r a b r1 r2 : Bytes} (h1 : getString r = some (a, r1))
    (h2 : getString r1 = some (b, r2)) : decAddSmartcard (26 :: r) = some (a, b, r2) := by
  rw [decAddSmartcard, h1]
  dsimp only
  rw [h2]

theorem decAddSmartcard_encAddSmartcard (id pin : Bytes) (lt : Bool) (secs : Nat) (confirm : Bool)
    (hid : id.length < 2 ^ 32) (hpin : pin.length < 2 ^ 32) :
    decAddSmartcard (encAddSmartcard id pin lt secs confirm) =
      some (id, pin, smartcardConstraints lt secs confirm) := by
  rw [encAddSmartcard, List.append_assoc]
  exact decAddSmartcard_of (getString_putString id _ hid) (getString_putString pin _ hpin)

theorem decRemoveSmartcard_encRemoveSmartcard (id pin : Bytes) (hid : id.length < 2 ^ 32)
    (hpin : pin.length < 2 ^ 32) : decRemoveSmartcard (encRemoveSmartcard id pin) = some (id, pin) := by
  rw [encRemoveSmartcard, decRemoveSmartcard]
  exact getTwoStrings_put id pin hid hpin

end Ysshra.Rpc

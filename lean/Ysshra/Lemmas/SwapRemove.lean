import Ysshra.Model.Gensign
import Ysshra.Lemmas.SwapAt
/-
`swapRemoveAll` (x/crypto keyring's removeLocked) keeps the entries that do not match, up to order.
It is followed from index `|A|` of `A ++ B`, with `A` already examined: a swap only permutes the
unexamined part `B` (`swapAt_append`), which gets shorter by one at every step whether the entry
matched or not.  The model's fuel `2 * length + 1` is more than that.
-/
namespace Ysshra.Gensign
open Ysshra List

theorem swapRemoveAll_perm {α} (p : α → Bool) (fuel : Nat) (A B : List α) (hf : B.length ≤ fuel) :
    swapRemoveAll p fuel A.length (A ++ B) ~ A ++ B.filter (!p ·) := by
  induction fuel generalizing A B with
  | zero =>
    obtain rfl := List.eq_nil_of_length_eq_zero (Nat.le_zero.1 hf)
    simp [swapRemoveAll]
  | succ m ih =>
    unfold swapRemoveAll
    cases B with
    | nil => simp
    | cons y B =>
      rw [List.getElem?_append_right (Nat.le_refl _), Nat.sub_self]
      simp only [List.getElem?_cons_zero, List.length_cons] at hf ⊢
      by_cases hpy : p y = true
      · rw [if_pos hpy, List.filter_cons_of_neg (by simpa using hpy)]
        cases hlast : (A ++ y :: B).getLast? with
        | none => simp at hlast
        | some last =>
          obtain ⟨B', h1, hp⟩ := swapAt_append A y B last hlast
          simp only [h1]
          exact (ih A B' (by rw [hp.length_eq]; omega)).trans ((hp.filter _).append_left A)
      · rw [if_neg hpy, List.filter_cons_of_pos (by simpa using hpy)]
        have := ih (A ++ [y]) B (by omega)
        rwa [List.length_append, List.length_singleton, List.append_assoc, List.singleton_append,
          List.append_assoc, List.singleton_append] at this

/-- `swapRemoveAll` with enough fuel keeps exactly the non-matching entries -/
theorem mem_swapRemoveAll {α} (p : α → Bool) :
    ∀ (fuel i : Nat) (l : List α), 2 * l.length + 1 ≤ fuel + i + i → i ≤ l.length →
      (∀ j x, j < i → l[j]? = some x → p x = false) →
      ∀ x, x ∈ swapRemoveAll p fuel i l ↔ (x ∈ l ∧ p x = false) := by
  intro fuel i l hf hi hinv x
  have h := (swapRemoveAll_perm p fuel (l.take i) (l.drop i) (by simp; omega)).mem_iff (a := x)
  rw [List.take_append_drop, List.length_take, Nat.min_eq_left hi] at h
  -- the entries before `i` do not match, so the condition may be put on them as well
  have htake : x ∈ l.take i ↔ x ∈ l.take i ∧ p x = false := by
    refine ⟨fun hx => ⟨hx, ?_⟩, And.left⟩
    obtain ⟨j, hj⟩ := List.mem_iff_getElem?.1 hx
    rw [List.getElem?_take] at hj
    split at hj
    · exact hinv j x ‹_› hj
    · cases hj
  rw [h, List.mem_append, List.mem_filter, Bool.not_eq_true', htake, ← or_and_right, ← List.mem_append,
    List.take_append_drop]

/-- at the fuel and start index `agentRemove` calls it with -/
theorem mem_swapRemoveAll' {α} (p : α → Bool) (l : List α) (x : α) :
    x ∈ swapRemoveAll p (2 * l.length + 1) 0 l ↔ (x ∈ l ∧ p x = false) :=
  mem_swapRemoveAll p _ 0 l (by omega) (Nat.zero_le _) (fun j _ hj => by omega) x

end Ysshra.Gensign

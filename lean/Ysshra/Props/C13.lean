import Ysshra.Lemmas.Serve
/-
C13 — operations through the yubiagent client act exactly as on the served agent
(the protocol-extension operations; the standard agent operations travel through x/crypto's
client and server and are covered by the correspondence run).
-/
namespace Ysshra
namespace C13
open Wire Serve Rpc

def small (b : Bytes) : Prop := b.length < 2 ^ 32

/-- Add-hardware-certificate, new wire format: the served agent receives exactly the caller's key
    blob and comment, and the caller gets the agent's verdict: success as success, an error as an
    error with the same text — unless the text is the in-band marker itself (finding F11). -/
theorem c13_addhard (env : Env) (i : Nat) (blob comment : Bytes) (h1 : small blob) (h2 : small comment)
    (hold : env.pkOK (putString blob ++ putString comment) = false) (hpk : env.pkOK blob = true) :
    addHardCert env i blob comment =
      match env.addHardCert i blob comment with
      | none => .ok ()
      | some e => if e = success then .ok () else .err e := by
  have hh := handle_encAddHardCert env i blob comment h1 h2 hold
  rw [hpk] at hh
  simp only [addHardCert, exchange_logged hh]
  exact verdict_textOr _

/-- the excluded point is real: an agent error whose text is `SUCCESS` reaches the caller as success -/
theorem c13_excluded_success_text (env : Env) (i : Nat) (blob comment : Bytes) (h1 : small blob)
    (h2 : small comment) (hold : env.pkOK (putString blob ++ putString comment) = false)
    (hpk : env.pkOK blob = true) (herr : env.addHardCert i blob comment = some success) :
    addHardCert env i blob comment = .ok () := by
  rw [c13_addhard env i blob comment h1 h2 hold hpk, herr]
  simp

/-- Add-hardware-certificate, legacy wire format (`31 ‖ key blob`): the agent receives the blob
    with an empty comment. -/
theorem c13_addhard_legacy (env : Env) (i : Nat) (blob : Bytes) (hpk : env.pkOK blob = true) :
    handle env i (31 :: blob) = .replyLogged (textOr (env.addHardCert i blob []) success) := by
  rw [handle_addHardCert, hpk]
  rfl

/-- a certificate the server cannot parse in either format ends the exchange with an error -/
theorem c13_addhard_unparsable (env : Env) (i : Nat) (blob comment : Bytes) (h1 : small blob)
    (h2 : small comment) (hno : ∀ b, env.pkOK b = false) :
    addHardCert env i blob comment = .connErr := by
  have hh := handle_encAddHardCert env i blob comment h1 h2 (hno _)
  rw [hno] at hh
  simp only [addHardCert, exchange_fail hh]

/-- slot names as the wire format can carry them: non-empty, comma-free -/
def slotsWF (slots : List Bytes) : Prop := ∀ s ∈ slots, s ≠ [] ∧ (0x2c : UInt8) ∉ s

/-- List-slots: the caller receives the agent's slot list in order and its error as an error —
    for slot names the name-list can carry, and a non-empty error text. -/
theorem c13_listslots (env : Env) (i : Nat) (hwf : slotsWF (env.listSlots i).1)
    (h1 : small (joinComma (env.listSlots i).1)) (h2 : small (errText (env.listSlots i).2)) :
    listSlots env i =
      (if (errText (env.listSlots i).2).isEmpty then .ok (env.listSlots i).1
       else .err (errText (env.listSlots i).2), (env.listSlots i).1) :=
  listSlots_of (handle_listSlots env i []) (decListSlotsResp_encListSlotsResp _ _ hwf h1 h2)

/-- the excluded point is real: an agent error with an empty text reaches the caller as success -/
theorem c13_excluded_empty_error (env : Env) (i : Nat) (hwf : slotsWF (env.listSlots i).1)
    (h1 : small (joinComma (env.listSlots i).1)) (he : (env.listSlots i).2 = some []) :
    (listSlots env i).1 = .ok (env.listSlots i).1 := by
  rw [c13_listslots env i hwf h1 (by simp [he, errText, textOr, small])]
  simp [he, errText, textOr]

/-- Read-slot / attest-slot: the agent receives the slot name unchanged; the caller gets the PEM of
    the agent's certificate, or the agent's (non-empty) error text as an error. -/
theorem c13_readslot (env : Env) (i : Nat) (slot : Bytes)
    (h1 : small (textOr (env.readSlot i slot).1 [])) (h2 : small (errText (env.readSlot i slot).2)) :
    slotOp env i 33 slot =
      if (errText (env.readSlot i slot).2).isEmpty then .ok (textOr (env.readSlot i slot).1 [])
      else .err (errText (env.readSlot i slot).2) :=
  slotOp_of (handle_readSlot env i slot) (decSlotResp_encSlotResp _ _ h1 h2)

theorem c13_attestslot (env : Env) (i : Nat) (slot : Bytes)
    (h1 : small (textOr (env.attestSlot i slot).1 [])) (h2 : small (errText (env.attestSlot i slot).2)) :
    slotOp env i 34 slot =
      if (errText (env.attestSlot i slot).2).isEmpty then .ok (textOr (env.attestSlot i slot).1 [])
      else .err (errText (env.attestSlot i slot).2) :=
  slotOp_of (handle_attestSlot env i slot) (decSlotResp_encSlotResp _ _ h1 h2)

/-- Wait: the agent is asked to wait for exactly the caller's code. -/
theorem c13_wait (env : Env) (i : Nat) (c : UInt8) :
    wait env i c =
      match env.wait i c with
      | none => .ok ()
      | some e => if e = success then .ok () else .err e := by
  simp only [wait, exchange_logged (handle_wait env i c [])]
  exact verdict_textOr _

/-- a request with a code the server does not interpret reaches the served agent's `Forward` as
    it is, and the reply comes back as it is -/
theorem exchange_uninterpreted (env : Env) (i : Nat) (code : UInt8) (body : Bytes)
    (hc : code ∉ ([31, 32, 33, 34, 35] : List UInt8)) (hs : code ∉ stdCodes) :
    exchange env i (code :: body) = env.forward i (code :: body) := by
  have hstd : stdCodes.contains code = false := by simpa using hs
  rw [exchange, handle_other env i code body hc, hstd]
  cases env.forward i (code :: body) <;> rfl

/-- Raw forward of a request the server does not interpret: relayed byte-for-byte both ways. -/
theorem c13_forward (env : Env) (i : Nat) (code : UInt8) (body : Bytes)
    (hc : code ∉ ([31, 32, 33, 34, 35] : List UInt8)) (hs : code ∉ stdCodes) :
    forward env i (code :: body) =
      match env.forward i (code :: body) with
      | some r => .ok r
      | none => .connErr := by
  rw [forward, exchange_uninterpreted env i code body hc hs]
  cases env.forward i (code :: body) <;> rfl

/-- Smartcard keys: the server does not interpret codes 26 and 21, so the served agent's `Forward`
    receives the client's request byte for byte, the request reads back as the reader id, the PIN
    and the constraints the caller gave, and the caller's result is decided by the first byte of
    the agent's reply alone: success (6) is success, anything else a failure, an empty reply and a
    lost connection are errors. -/
theorem c13_smartcard_add (env : Env) (i : Nat) (id pin : Bytes) (lt : Bool) (secs : Nat) (confirm : Bool)
    (hid : small id) (hpin : small pin) :
    addSmartcardKey env i id pin lt secs confirm =
      smartcardRes (env.forward i (encAddSmartcard id pin lt secs confirm)) ∧
    decAddSmartcard (encAddSmartcard id pin lt secs confirm) =
      some (id, pin, smartcardConstraints lt secs confirm) := by
  constructor
  · unfold addSmartcardKey encAddSmartcard
    rw [exchange_uninterpreted env i 26 _ (by simp) (by simp [stdCodes])]
  · exact decAddSmartcard_encAddSmartcard id pin lt secs confirm hid hpin

theorem c13_smartcard_remove (env : Env) (i : Nat) (id pin : Bytes) (hid : small id) (hpin : small pin) :
    removeSmartcardKey env i id pin = smartcardRes (env.forward i (encRemoveSmartcard id pin)) ∧
    decRemoveSmartcard (encRemoveSmartcard id pin) = some (id, pin) := by
  constructor
  · unfold removeSmartcardKey encRemoveSmartcard
    rw [exchange_uninterpreted env i 21 _ (by simp) (by simp [stdCodes])]
  · exact decRemoveSmartcard_encRemoveSmartcard id pin hid hpin

/-- the result depends on the first byte of the agent's reply only -/
theorem c13_smartcard_result (r : Option Bytes) :
    (smartcardRes r = .ok ↔ ∃ rest, r = some (6 :: rest)) ∧
    (smartcardRes r = .connErr ↔ r = none) ∧ (smartcardRes r = .empty ↔ r = some []) := by
  cases r with
  | none => simp [smartcardRes]
  | some b =>
    cases b with
    | nil => simp [smartcardRes]
    | cons x xs =>
      by_cases hx : x = 6
      · subst hx; simp [smartcardRes]
      · simp [smartcardRes, hx]

/-- Slot listing: for every output of the PIV tool, in order, the two bytes after `Slot ` of every
    line of at least seven bytes that starts with `Slot`; nothing else; never a crash
    (`Bridge.Wire.slots_bridge` pins the length test and the slice in the source). -/
theorem c13_slots (output : Bytes) :
    parseSlots output =
      ((Text.splitOn 0x0a output).filter (fun l => l.length ≥ 7 && l.take 4 = slotPrefix)).map
        (fun l => (l.drop 5).take 2) := by
  -- `slotOfLine` is that test followed by that slice
  rw [← List.filterMap_eq_map, List.filterMap_filter]
  rfl

theorem c13_slots_two_bytes (output : Bytes) : ∀ s ∈ parseSlots output, s.length = 2 := by
  intro s hs
  rw [c13_slots] at hs
  simp only [List.mem_map, List.mem_filter] at hs
  obtain ⟨l, ⟨_, hl⟩, rfl⟩ := hs
  simp only [Bool.and_eq_true, decide_eq_true_eq] at hl
  simp; omega

example : parseSlots b!"V\nSlot 9a:\nSlot 9\nSlot 9c:\n" = [b!"9a", b!"9c"] := by
  decide

end C13
end Ysshra

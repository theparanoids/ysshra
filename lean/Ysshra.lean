import Ysshra.Bridge.Attest
import Ysshra.Bridge.CertType
import Ysshra.Bridge.Crypki
import Ysshra.Bridge.Gensign
import Ysshra.Bridge.KeyId
import Ysshra.Bridge.Message
import Ysshra.Bridge.Param
import Ysshra.Bridge.ShimOps
import Ysshra.Bridge.SnapAttest
import Ysshra.Bridge.SnapGensignAux
import Ysshra.Bridge.SnapKeyId
import Ysshra.Bridge.SnapMessage
import Ysshra.Bridge.SnapParam
import Ysshra.Bridge.SnapParse
import Ysshra.Bridge.SnapShim
import Ysshra.Bridge.SnapTls
import Ysshra.Bridge.SnapYubi
import Ysshra.Bridge.Validation
import Ysshra.Bridge.Wire
import Ysshra.Drv.Attest
import Ysshra.Drv.Codec
import Ysshra.Drv.Common
import Ysshra.Drv.Cond
import Ysshra.Drv.Crypki
import Ysshra.Drv.Gensign
import Ysshra.Drv.GensignFmt
import Ysshra.Drv.Msg
import Ysshra.Drv.Serve
import Ysshra.Drv.Shim
import Ysshra.Gen.Attest
import Ysshra.Gen.CertType
import Ysshra.Gen.Crypki
import Ysshra.Gen.Gensign
import Ysshra.Gen.KeyId
import Ysshra.Gen.Locks
import Ysshra.Gen.Message
import Ysshra.Gen.Param
import Ysshra.Gen.ShimOps
import Ysshra.Gen.SnapAttest
import Ysshra.Gen.SnapGensignAux
import Ysshra.Gen.SnapKeyId
import Ysshra.Gen.SnapMessage
import Ysshra.Gen.SnapParam
import Ysshra.Gen.SnapParse
import Ysshra.Gen.SnapShim
import Ysshra.Gen.SnapTls
import Ysshra.Gen.SnapYubi
import Ysshra.Gen.Validation
import Ysshra.Gen.Wire
import Ysshra.Lemmas.AddCerts
import Ysshra.Lemmas.Cond
import Ysshra.Lemmas.Crypki
import Ysshra.Lemmas.Gensign
import Ysshra.Lemmas.Json
import Ysshra.Lemmas.KeyId
import Ysshra.Lemmas.Legacy
import Ysshra.Lemmas.Locks
import Ysshra.Lemmas.Message
import Ysshra.Lemmas.ModHex
import Ysshra.Lemmas.Pkcs1
import Ysshra.Lemmas.Serve
import Ysshra.Lemmas.Shim
import Ysshra.Lemmas.ShimArr
import Ysshra.Lemmas.ShimSync
import Ysshra.Lemmas.ShimVisible
import Ysshra.Lemmas.SwapAt
import Ysshra.Lemmas.SwapRemove
import Ysshra.Lemmas.Text
import Ysshra.Lemmas.Wire
import Ysshra.Model.Attest
import Ysshra.Model.CertType
import Ysshra.Model.Cond
import Ysshra.Model.Crypki
import Ysshra.Model.Gensign
import Ysshra.Model.GoSem
import Ysshra.Model.Json
import Ysshra.Model.KeyId
import Ysshra.Model.Locks
import Ysshra.Model.Message
import Ysshra.Model.Param
import Ysshra.Model.Pem
import Ysshra.Model.Pkcs1
import Ysshra.Model.Rpc
import Ysshra.Model.Serve
import Ysshra.Model.Shim
import Ysshra.Model.Text
import Ysshra.Model.Wire
import Ysshra.Props.C01
import Ysshra.Props.C02
import Ysshra.Props.C03
import Ysshra.Props.C04
import Ysshra.Props.C05
import Ysshra.Props.C06
import Ysshra.Props.C07
import Ysshra.Props.C08
import Ysshra.Props.C09
import Ysshra.Props.C10
import Ysshra.Props.C11
import Ysshra.Props.C12
import Ysshra.Props.C13
import Ysshra.Props.C14
import Ysshra.Props.C15
import Ysshra.Props.C16
import Ysshra.Props.C17
import Ysshra.Props.C17Backoff
import Ysshra.Props.C18
import Ysshra.Props.C19
import Ysshra.Props.C20
import Ysshra.Spec.C05
import Ysshra.Spec.C06
import Ysshra.Spec.C12
import Ysshra.Spec.C13
import Ysshra.Spec.C14
import Ysshra.Spec.C15
import Ysshra.Spec.C16
import Ysshra.Spec.C19
import Ysshra.Spec.Gensign
import Ysshra.Util
import Ysshra.Wire.JsonIO
/- Every module of the library, so that `lake build` checks all of it. -/

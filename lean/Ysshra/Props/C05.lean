import Ysshra.Lemmas.KeyId
/-
C05 — KeyID encoding round-trips and refuses inconsistent or incomplete KeyIDs.
-/
namespace Ysshra
namespace C05
open KeyID

/-- Encoding succeeds exactly when the version is supported and the attributes are consistent. -/
theorem c05_marshal_ok_iff (k : KeyID) :
    (∃ j, marshal k = .ok j) ↔ (k.Version = 1 ∧ k.consistent) := by
  simp only [marshal_eq_ok_iff, ← sane_iff, exists_and_left, exists_eq, and_true]

/-- Decoding the encoded KeyID yields an equal KeyID — for every KeyID value
    (all flags, any touch policy / usage inside Go's `int`, any principal list
    including the nil slice, any strings). -/
theorem c05_roundtrip (k : KeyID) (hwf : k.wf) (j : JVal) (h : marshal k = .ok j) :
    unmarshal (some j) = .ok k := by
  obtain ⟨hv, hs, rfl⟩ := marshal_eq_ok_iff.1 h
  exact unmarshal_ok_iff.2
    ⟨decodeStruct_toJ k hwf, hv, hs, tags, decodeToMapKeys_toJ k, by decide⟩

/-- Decoding any text — `t = none` is "not JSON at all" — either fails or returns a KeyID whose
    version is supported, which is consistent, and whose text had every required member. -/
theorem c05_unmarshal_sound (t : Option JVal) (k : KeyID) (h : unmarshal t = .ok k) :
    k.Version = 1 ∧ k.consistent ∧
    ∃ ms, t = some (.obj ms) ∧ ∀ f ∈ requiredV1, f ∈ ms.map (·.1) := by
  obtain ⟨_, hv, hs, keys, hkeys, hall⟩ := unmarshal_ok_iff.1 h
  refine ⟨hv, (sane_iff k).1 hs, ?_⟩
  -- `null` decodes as a map too, but with no key at all
  rcases decodeToMapKeys_some hkeys with ⟨_, rfl⟩ | ⟨ms, rfl, rfl⟩
  · exact absurd (hall c!"prins" List.mem_cons_self) List.not_mem_nil
  · exact ⟨ms, rfl, hall⟩

/-- Neither direction has a crash outcome: both are total functions into `Except`, and the
    decoder never indexes or slices (checked accesses only: the model has no partial operation).
    Stated as: every input yields `ok` or `error`. -/
theorem c05_total (t : Option JVal) :
    (∃ e, unmarshal t = .error e) ∨ (∃ k', unmarshal t = .ok k') := by
  cases h : unmarshal t with
  | error e => exact .inl ⟨e, rfl⟩
  | ok k' => exact .inr ⟨k', rfl⟩

/-- Non-vacuity: a concrete consistent KeyID meets the hypotheses of the round trip. -/
example : ∃ j, marshal ⟨some [c!"alice"], c!"ab12", c!"u", c!"1.2.3.4", c!"h", false, false, false,
    true, 0, 1, 1⟩ = .ok j := ⟨_, rfl⟩
/-- … and an inconsistent one (headless with a hardware key) is refused. -/
example : marshal ⟨none, [], [], [], [], false, true, true, false, 0, 1, 1⟩ = .error .insane := rfl

end C05
end Ysshra

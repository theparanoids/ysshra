import Ysshra.Model.Wire
import Ysshra.Lemmas.Text
/-
Round trips of the wire format: a 32-bit header, a frame, an SSH string, two SSH strings, and the
message structs built from them.
-/
namespace Ysshra.Wire
open Ysshra

theorem be32_length (n : Nat) : (be32 n).length = 4 := rfl

theorem readBe32_be32 (n : Nat) (h : n < 2 ^ 32) (x : Bytes) : readBe32 (be32 n ++ x) = some (n, x) := by
  have lt (m : Nat) : m % 256 < UInt8.size := Nat.mod_lt m (by decide)
  simp only [be32, List.cons_append, readBe32]
  rw [UInt8.toNat_ofNat_of_lt' (lt _), UInt8.toNat_ofNat_of_lt' (lt _), UInt8.toNat_ofNat_of_lt' (lt _),
    UInt8.toNat_ofNat_of_lt' (lt _)]
  congr 2
  -- as successive quotients by 2 ^ 8 the digits are a chain that `omega` takes apart link by link;
  -- three unrelated quotients of `n` cost it three times as much
  have e (a b : Nat) : n / 2 ^ (a + b) = n / 2 ^ a / 2 ^ b := by rw [Nat.div_div_eq_div_mul, Nat.pow_add]
  rw [e 16 8, e 8 8]
  omega

theorem frame_of_le {data : Bytes} (h : data.length ≤ maxAgentResponseBytes) :
    frame data = some (be32 data.length ++ data) :=
  if_neg (Nat.not_lt.2 h)

theorem readFrame_frame (r rest : Bytes) (h : r.length ≤ maxAgentResponseBytes) :
    readFrame (be32 r.length ++ r ++ rest) = .frame r rest r.length := by
  have hne : (be32 r.length ++ r ++ rest).isEmpty = false := rfl
  have hlen : ¬ (r ++ rest).length < r.length := by rw [List.length_append]; omega
  rw [readFrame, hne, if_neg Bool.false_ne_true, List.append_assoc,
    readBe32_be32 _ (Nat.lt_of_le_of_lt h (by decide))]
  dsimp only
  rw [if_neg (Nat.not_lt.2 h), if_neg hlen, List.take_left' rfl, List.drop_left' rfl]

theorem readFrame_alloc {bs r rest : Bytes} {a : Nat} (h : readFrame bs = .frame r rest a) :
    a ≤ maxAgentResponseBytes := by
  unfold readFrame at h
  -- `split at h` gets dearer with every `if` nested below the one it splits: the outer two are named instead
  by_cases he : bs.isEmpty = true
  · rw [if_pos he] at h
    cases h
  rw [if_neg he] at h
  split at h
  · cases h
  rename_i l rest' _
  by_cases hl : l > maxAgentResponseBytes
  · rw [if_pos hl] at h
    cases h
  rw [if_neg hl] at h
  split at h
  · split at h <;> cases h
  cases h
  exact Nat.not_lt.1 hl

theorem getString_putString (s rest : Bytes) (h : s.length < 2 ^ 32) :
    getString (putString s ++ rest) = some (s, rest) := by
  unfold getString putString
  rw [List.append_assoc, readBe32_be32 _ h]
  simp

/-- The decoded parts are hypotheses, here and in `Rpc.decAddSmartcard_of`: a goal that
    has decoder ∘ encoder on open terms under a `match` makes the kernel evaluate it as soon as one
    definitional step stands next to it, and that evaluation runs out of stack on `be32`'s
    arithmetic.  With the parts as variables every step is a rewrite. -/
theorem getTwoStrings_of {bs a b r1 : Bytes} (h1 : getString bs = some (a, r1))
    (h2 : getString r1 = some (b, [])) : getTwoStrings bs = some (a, b) := by
  unfold getTwoStrings
  rw [h1]; dsimp only; rw [h2]; rfl

theorem getTwoStrings_put (a b : Bytes) (ha : a.length < 2 ^ 32) (hb : b.length < 2 ^ 32) :
    getTwoStrings (putString a ++ putString b) = some (a, b) :=
  getTwoStrings_of (getString_putString a _ ha) (by simpa using getString_putString b [] hb)

theorem joinComma_eq_nil (slots : List Bytes) (h : ∀ s ∈ slots, s ≠ []) :
    joinComma slots = [] ↔ slots = [] := by
  match slots with
  | [] => simp [joinComma, Text.joinWith]
  | [s] => simpa [joinComma, Text.joinWith] using h s (by simp)
  | s :: _ :: _ => simp [joinComma, Text.joinWith]

theorem decAddHardCert_encAddHardCert (blob comment : Bytes) (h1 : blob.length < 2 ^ 32)
    (h2 : comment.length < 2 ^ 32) :
    decAddHardCert (encAddHardCert blob comment) = some (blob, comment) := by
  rw [encAddHardCert, decAddHardCert]
  exact getTwoStrings_put blob comment h1 h2

theorem decListSlotsResp_encListSlotsResp (slots : List Bytes) (err : Bytes)
    (hwf : ∀ s ∈ slots, s ≠ [] ∧ (0x2c : UInt8) ∉ s)
    (h1 : (joinComma slots).length < 2 ^ 32) (h2 : err.length < 2 ^ 32) :
    decListSlotsResp (encListSlotsResp slots err) = some (slots, err) := by
  rw [encListSlotsResp, putNameList, decListSlotsResp, getTwoStrings_put _ _ h1 h2]
  simp only [List.isEmpty_iff, joinComma_eq_nil slots fun s hs => (hwf s hs).1]
  split
  · rename_i hs
    rw [hs]
  · rename_i hs
    rw [splitComma, joinComma, Text.splitOn_joinWith _ _ hs fun x hx => (hwf x hx).2]

theorem decSlotResp_encSlotResp (cert err : Bytes) (h1 : cert.length < 2 ^ 32) (h2 : err.length < 2 ^ 32) :
    decSlotResp (encSlotResp cert err) = some (cert, err) :=
  getTwoStrings_put cert err h1 h2

end Ysshra.Wire

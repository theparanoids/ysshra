import Ysshra.Lemmas.Shim
import Ysshra.Lemmas.Wire
/-
C10 — hardware certificates are bound to a held key; everything else passes through intact.
-/
namespace Ysshra
namespace C10
open Shim

/-- A certificate is accepted as an in-memory hardware certificate exactly when the underlying
    agent's listing (which must succeed) contains the plain key it certifies; adding it again is a
    no-op; a plain key is refused. -/
theorem c10_addhard_iff (s : State) (now : Nat) (f : Faults) (c : Cert) (sfx : Bytes)
    (hl : s.locked = false) (hm : hasCert s c = false) :
    ((step s now f (.addHardCert (.cert c) sfx)).2 = .ok ↔
      ∃ keys, (s.u.list f).2 = some keys ∧ keys.any (·.blob = .key c.key) = true) ∧
    ((step s now f (.addHardCert (.cert c) sfx)).2 = .ok →
      hasCert (step s now f (.addHardCert (.cert c) sfx)).1 c = true) := by
  simp only [step, hl, Bool.false_eq_true, ↓reduceIte, hm]
  cases hlist : s.u.list f with
  | mk u' r =>
    cases r with
    | none =>
      refine ⟨⟨fun h => (by cases h), ?_⟩, fun h => (by cases h)⟩
      rintro ⟨keys', h1, _⟩; cases h1
    | some keys =>
      by_cases hk : keys.any (·.blob = .key c.key) = true
      · simp only [hk, ↓reduceIte]
        refine ⟨⟨fun _ => ⟨keys, rfl, hk⟩, fun _ => trivial⟩, fun _ => ?_⟩
        exact hasCert_iff.2 ⟨_, List.mem_append_right _ (List.mem_singleton_self _), rfl⟩
      · simp only [hk, Bool.false_eq_true, ↓reduceIte]
        refine ⟨⟨fun h => (by cases h), ?_⟩, fun h => (by cases h)⟩
        rintro ⟨keys', h1, h2⟩
        simp only [Option.some.injEq] at h1; subst h1; exact absurd h2 hk

theorem c10_addhard_again (s : State) (now : Nat) (f : Faults) (c : Cert) (sfx : Bytes)
    (hl : s.locked = false) (hm : hasCert s c = true) :
    step s now f (.addHardCert (.cert c) sfx) = (s, .ok) := by
  simp [step, hl, hm]

theorem c10_addhard_plain_key (s : State) (now : Nat) (f : Faults) (k : Nat) (sfx : Bytes) :
    (step s now f (.addHardCert (.key k) sfx)).2 = .err := by
  simp only [step]; split <;> rfl

/-- Signing with an in-memory hardware certificate asks the underlying agent for the plain key the
    certificate certifies, so a signature that comes back verifies under the certificate's key. -/
theorem c10_sign_hard (s : State) (now : Nat) (f : Faults) (c : Cert) (k : Nat)
    (hl : s.locked = false) (keys : List Ident) (hf : (filter s now f).2 = some keys)
    (hm : hasCert (filter s now f).1 c = true)
    (h : (step s now f (.sign (.cert c))).2 = .signed (.ok k)) : k = c.key := by
  rw [step_sign_cert s now f c hl hf, if_pos hm] at h
  -- the request that went out named the plain key `c.key`
  exact (signOut_ok h).1

/-- Removing an in-memory certificate makes it disappear even when the underlying agent fails
    (it never held it); remove-all empties the table whatever the underlying agent answers. -/
theorem c10_remove_mem (s : State) (now : Nat) (f : Faults) (c : Cert)
    (hl : s.locked = false) (hm : hasCert s c = true) :
    (step s now f (.remove (.cert c))).2 = .ok ∧
    hasCert (step s now f (.remove (.cert c))).1 c = false := by
  rw [step_remove s now f _ hl, removeCore_ok, any_blob_cert, hm, Bool.or_true]
  refine ⟨rfl, Bool.eq_false_iff.2 fun h => ?_⟩
  obtain ⟨mc, hmc, rfl⟩ := hasCert_iff.1 h
  exact ((mem_removeCore_certs s f _ mc).1 hmc).2 rfl

theorem c10_remove_all (s : State) (now : Nat) (f : Faults) (hl : s.locked = false) :
    (step s now f .removeAll).1.certs = [] ∧ (step s now f .removeAll).1.cache = [] := by
  simp only [step, hl, Bool.false_eq_true, ↓reduceIte]; split <;> exact ⟨rfl, rfl⟩

/-- Add and remove of identities of the underlying agent have exactly the effect (and result) they
    have on the underlying agent. -/
theorem c10_passthrough_add (s : State) (now : Nat) (f : Faults) (id : Ident) (hl : s.locked = false) :
    (step s now f (.add id)).1.u = (s.u.add f id).1 ∧
    ((step s now f (.add id)).2 = .ok ↔ (s.u.add f id).2 = true) ∧
    (step s now f (.add id)).1.certs = s.certs := by
  simp only [step, hl, Bool.false_eq_true, ↓reduceIte]
  cases h : s.u.add f id with
  | mk u' ok => cases ok <;> simp

theorem c10_passthrough_remove (s : State) (now : Nat) (f : Faults) (b : Blob) (hl : s.locked = false)
    (hnm : ∀ c, b = .cert c → hasCert s c = false) :
    (step s now f (.remove b)).1.u = (s.u.remove f b).1 ∧
    ((step s now f (.remove b)).2 = .ok ↔ (s.u.remove f b).2 = true) := by
  have hin : s.certs.any (Blob.cert ·.cert = b) = false := by
    cases b with
    | key k => simp
    | cert c => rw [any_blob_cert, hnm c rfl]
  rw [step_remove s now f b hl, removeCore_u, removeCore_ok, hin, Bool.or_false]
  refine ⟨rfl, ?_⟩
  cases (s.u.remove f b).2 <;> simp

/-- Under every fault set, a still-valid in-memory certificate whose key the underlying agent
    lists (or whose listing is empty / fails) survives listing, signer listing and signing. -/
theorem c10_faults_keep_valid (s : State) (now : Nat) (f : Faults) (mc : MemCert) (hm : mc ∈ s.certs)
    (hv : validAt mc.cert now = true)
    (hkey : ∀ keys, (s.u.list f).2 = some keys → keys = [] ∨ mc.cert.key ∈ keys.map (·.blob.pub)) :
    mc ∈ (filter s now f).1.certs := by
  rcases hl : s.u.list f with ⟨u1, _ | keys⟩
  · rw [filter_none s now f hl]
    exact hm
  · -- `filter` removes only certificates outside their window or without a listed key
    obtain ⟨ka, h, -⟩ := filter_removes s now f hl
    refine h.keeps mc hm ?_
    rintro (h | ⟨h1, h2⟩)
    · rw [hv] at h
      cases h
    · rcases hkey keys (by rw [hl]) with h | h
      · exact h1 h
      · exact h2 h

/-- Construction: a failing listing in no-upstream mode is an error, not a crash; with the mode
    off the underlying agent is not consulted at all. -/
theorem c10_new (u : UAgent) (f : Faults) :
    ((u.list f).2 = none → Shim.new true u f = none) ∧ (Shim.new false u f).isSome = true := by
  constructor
  · intro h
    unfold Shim.new
    cases hl : u.list f with
    | mk u1 r => rw [hl] at h; simp only at h; subst h; simp
  · simp [Shim.new]

/-- Raw requests are relayed byte-for-byte: what goes to the underlying agent is exactly the frame
    of the request, and what comes back is exactly the body of the next frame on the connection. -/
theorem c10_forward (req reply rest : Bytes) (h1 : req.length ≤ Wire.maxAgentResponseBytes)
    (h2 : reply.length ≤ Wire.maxAgentResponseBytes) :
    Wire.frame req = some (Wire.be32 req.length ++ req) ∧
    Wire.readFrame (Wire.be32 reply.length ++ reply ++ rest) = .frame reply rest reply.length :=
  ⟨Wire.frame_of_le h1, Wire.readFrame_frame reply rest h2⟩

/-- A raw request never touches the shim's own state — certificate tables, cache, lock flag, mode —
    whatever the underlying agent does with it, locked or not; only the connection may be lost. -/
theorem c10_forward_state (s : State) (now : Nat) (f : Faults) (req : Bytes) :
    let s' := (step s now f (.forward req)).1
    s'.certs = s.certs ∧ s'.cache = s.cache ∧ s'.locked = s.locked ∧ s'.noUp = s.noUp ∧
    s'.u.idents = s.u.idents ∧ s'.u.locked = s.u.locked := by
  simp only [step]
  split
  · exact ⟨rfl, rfl, rfl, rfl, rfl, rfl⟩
  · split <;> exact ⟨rfl, rfl, rfl, rfl, rfl, rfl⟩

/-- … and when the underlying agent answers, the caller gets that answer as it is. -/
theorem c10_forward_reply (s : State) (now : Nat) (req : Bytes) (hopen : s.u.closed = false) :
    (step s now noFaults (.forward req)).2 = .forwarded (0xAA :: req) := by
  simp [step, hopen, noFaults]

/-- A sign request with signature flags does to the state exactly what the plain request does, and
    it succeeds only when the plain request does, with the same key: a failure of the underlying
    agent is never turned into a success by asking again in another form. -/
theorem c10_sign_flags (rsaKey : Nat → Bool) (s : State) (now : Nat) (f : Faults) (b : Blob) :
    (stepSignFlags rsaKey s now f b).1 = (step s now f (.sign b)).1 ∧
    ∀ k, (stepSignFlags rsaKey s now f b).2 = .signed (.ok k) →
      (step s now f (.sign b)).2 = .signed (.ok k) ∧ rsaKey k = true := by
  unfold stepSignFlags
  split
  · rename_i s' k heq
    rw [heq]
    refine ⟨rfl, fun k' h => ?_⟩
    cases hr : rsaKey k with
    | false => simp [hr] at h
    | true =>
      simp only [hr, if_true, Out.signed.injEq, SignRes.ok.injEq] at h
      subst h
      exact ⟨rfl, hr⟩
  · rename_i r hne
    exact ⟨rfl, fun k h => (hne _ k (by rw [← h])).elim⟩

end C10
end Ysshra

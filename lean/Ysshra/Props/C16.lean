import Ysshra.Bridge.Attest
import Ysshra.Lemmas.ModHex
import Ysshra.Model.Pem
/-
C16 — device serial extraction (`ModHex`) is total, and `ParsePEMCertificates` over a segmented
bundle returns every certificate in order or fails.
The certificate-decoding clauses are covered by the correspondence run against crypto/x509; they
are not theorems.
-/
namespace Ysshra
namespace C16

section ModHex
open Attest

/-- The extractor never crashes, whatever the extension list (with the guard of the F5 repair;
    `Bridge.Attest.modhex_bridge` pins that guard in the source). -/
theorem c16_modhex_total (exts : List (Str × Bytes)) : modHex exts ≠ .crash := by
  unfold modHex; repeat' split
  all_goals simp

/-- the serial the extractor reads: value of the last vendor extension minus two header bytes -/
def serialOf (exts : List (Str × Bytes)) : Option (Option Bytes) := modHex.pick none exts

/-- Success exactly for a 3- or 4-byte serial; the 3-byte form is padded with `cc`. -/
theorem c16_modhex_iff (exts : List (Str × Bytes)) (s : Str) :
    modHex exts = .ok s ↔
      ∃ serial, serialOf exts = some (some serial) ∧
        ((serial.length = 3 ∧ s = 'c' :: 'c' :: serial.flatMap modByte) ∨
         (serial.length = 4 ∧ s = serial.flatMap modByte)) := by
  unfold modHex serialOf
  cases modHex.pick none exts with
  | none => simp
  | some o =>
    cases o with
    | none => simp
    | some serial =>
      by_cases h3 : serial.length = 3
      · simp [h3, eq_comm]
      · by_cases h4 : serial.length = 4
        · simp [h4, eq_comm]
        · simp [h3, h4]

/-- Distinct serials of the same length give distinct strings. -/
theorem c16_modhex_injective (s t : Bytes) (hl : s.length = t.length)
    (h : s.flatMap modByte = t.flatMap modByte) : s = t :=
  flatMap_modByte_inj s t h

/-- … and a 3-byte serial collides exactly with the 4-byte serial that has a leading zero byte
    (that is what the `cc` padding means). -/
theorem c16_modhex_padding (s : Bytes) :
    ('c' :: 'c' :: s.flatMap modByte) = ((0 : UInt8) :: s).flatMap modByte := by
  have : modByte 0 = ['c', 'c'] := by decide
  simp [this]

/-- A result has 8 characters, all from the ModHex alphabet `cbdefghijklnrtuv`. -/
theorem c16_modhex_shape (exts : List (Str × Bytes)) (s : Str) (h : modHex exts = .ok s) :
    s.length = 8 ∧ ∀ c ∈ s, c ∈ Gen.Attest.modHexMap := by
  rw [Bridge.Attest.modhex_bridge.1]
  obtain ⟨serial, -, ⟨h3, rfl⟩ | ⟨h4, rfl⟩⟩ := (c16_modhex_iff exts s).1 h
  · rw [c16_modhex_padding]
    exact ⟨by rw [flatMap_modByte_length, List.length_cons, h3], flatMap_modByte_mem _⟩
  · exact ⟨by rw [flatMap_modByte_length, h4], flatMap_modByte_mem _⟩

/-- Non-vacuity: serial 00 9a 4f 21 behind the two DER header bytes. -/
example : modHex [(serialOID, [0x02, 0x04, 0x00, 0x9a, 0x4f, 0x21])] = .ok c!"ccklfvdb" := by decide

end ModHex

section Pem
open Pem

/-- the serials of the blocks of a bundle, in order -/
def blockCerts : List Seg → List Nat
  | [] => []
  | .block (some c) :: r => c :: blockCerts r
  | _ :: r => blockCerts r

theorem blockCerts_of_no_block (r : List Seg) (h : r.any Seg.isBlock = false) : blockCerts r = [] := by
  induction r with
  | nil => rfl
  | cons x xs ih =>
    simp only [List.any_cons, Bool.or_eq_false_iff] at h
    cases x with
    | block c => simp [Seg.isBlock] at h
    | text w => simpa [blockCerts] using ih h.2

/-- A bundle in which every block parses, with any text in front of or between blocks and only
    white space after the last one, yields all its certificates in order. -/
theorem c16_pem_all_in_order (segs : List Seg)
    (hparse : ∀ s ∈ segs, s ≠ .block none)
    (htrail : ∀ pre post, segs = pre ++ post → post.any Seg.isBlock = false → post.all Seg.isWs = true) :
    certificates segs = some (blockCerts segs) := by
  induction segs with
  | nil => rfl
  | cons s r ih =>
    have ih' := ih (fun x hx => hparse x (List.mem_cons_of_mem _ hx))
      (fun pre post h hb => htrail (s :: pre) post (by simp [h]) hb)
    cases s with
    | block c =>
      cases c with
      | none => exact absurd rfl (hparse _ (List.mem_cons_self ..))
      | some c => simp [certificates, blockCerts, ih']
    | text ws =>
      simp only [certificates, blockCerts]
      by_cases hb : r.any Seg.isBlock = true
      · simp [hb, ih']
      · have hb' : r.any Seg.isBlock = false := Bool.eq_false_iff.2 hb
        have hall := htrail [] (Seg.text ws :: r) rfl hb'
        simp only [List.all_cons, Bool.and_eq_true] at hall
        have hws : ws = true := by simpa [Seg.isWs] using hall.1
        simp [hb', hws, hall.2, blockCerts_of_no_block r hb']

/-- An error stays one behind any front.  `hp` is what `h` amounts to at the head of `post` (an error
    comes from a block or from text that is not white space); it is asked for in the form the proof
    uses: with it no text segment of the front ends the parse early. -/
theorem certificates_append_none (pre post : List Seg) (h : certificates post = none)
    (hp : post.any Seg.isBlock = true ∨ post.all Seg.isWs = false) :
    certificates (pre ++ post) = none := by
  induction pre with
  | nil => exact h
  | cons s r ih =>
    cases s with
    | block c =>
      cases c with
      | none => rfl
      | some c => simp [certificates, ih]
    | text ws =>
      simp only [List.cons_append, certificates, ih]
      rcases hp with hp | hp <;> simp [hp]

/-- A block that does not parse makes the whole bundle an error. -/
theorem c16_pem_bad_block (pre post : List Seg) (h : ∀ s ∈ pre, s ≠ .block none) :
    certificates (pre ++ .block none :: post) = none :=
  certificates_append_none pre _ rfl (.inl rfl)

/-- Trailing non-white-space after the last block is an error. -/
theorem c16_pem_trailing_garbage (pre : List Seg) :
    certificates (pre ++ [.text false]) = none :=
  certificates_append_none pre _ rfl (.inr rfl)

example : certificates [.text false, .block (some 7), .text false, .block (some 9), .text true] = some [7, 9] := by
  decide

end Pem

end C16
end Ysshra

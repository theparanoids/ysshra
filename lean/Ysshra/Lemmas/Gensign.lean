import Ysshra.Lemmas.SwapRemove
/-
Every function of the model is a *stage*: it takes a world and returns the world after it, the trace
it emitted and whether it succeeded.  A relation between these four that survives running one stage
after another (`Stagewise`) holds of a run once it holds of the steps of `run` (`run_stagewise`),
the last of which, `AddCertsToAgent`, is in turn made of three kinds of request (`addCerts_stagewise`);
what depends on which step failed is read off `run_cases`.
-/
namespace Ysshra.Gensign
open Ysshra

theorem tick_idents (a : Agent) : a.tick.1.idents = a.idents := rfl

theorem agentSign_idents (a : Agent) (pk : Key) (d : Nat) : (agentSign a pk d).1.idents = a.idents := by
  unfold agentSign
  dsimp only
  split
  · rfl
  · split <;> (try split) <;> rfl

theorem agentList_eq (a : Agent) :
    agentList a = (a.tick.1, if a.tick.2 then some a.idents else none) := by
  -- `a.idents` is `a.tick.1.idents` by `rfl`; in that form `generalize` abstracts it with the rest
  show _ = (a.tick.1, if a.tick.2 then some a.tick.1.idents else none)
  unfold agentList
  generalize a.tick = t
  rcases t with ⟨a1, _ | _⟩ <;> rfl

theorem agentList_idents (a : Agent) : (agentList a).1.idents = a.idents := by
  rw [agentList_eq]
  rfl

theorem agentList_some {a a' : Agent} {ids : List AIdent} (h : agentList a = (a', some ids)) :
    ids = a.idents ∧ a'.idents = a.idents := by
  rw [agentList_eq] at h
  obtain ⟨rfl, hids⟩ := Prod.mk.inj h
  split at hids
  · exact ⟨(Option.some.inj hids).symm, rfl⟩
  · cases hids

theorem mem_put (a : Agent) (id y : AIdent) :
    y ∈ (agentAdd.put id a).idents ↔ y = id ∨ (y ∈ a.idents ∧ ¬ (y.key = id.key ∧ y.cert = id.cert)) := by
  unfold agentAdd.put
  split
  · rename_i hany
    simp only [List.any_eq_true, Bool.and_eq_true, decide_eq_true_eq] at hany
    obtain ⟨z, hz, hzid⟩ := hany
    simp only [List.mem_map, Bool.and_eq_true, decide_eq_true_eq]
    constructor
    · rintro ⟨x, hx, rfl⟩
      split
      · exact .inl rfl
      · rename_i hn
        exact .inr ⟨hx, hn⟩
    · rintro (rfl | ⟨hy, hn⟩)
      · exact ⟨z, hz, if_pos hzid⟩
      · exact ⟨y, hy, if_neg hn⟩
  · rename_i hany
    simp only [List.any_eq_true, Bool.and_eq_true, decide_eq_true_eq, not_exists, not_and] at hany
    simp only [List.mem_append, List.mem_singleton]
    constructor
    · rintro (hy | rfl)
      · exact .inr ⟨hy, fun h => hany y hy h.1 h.2⟩
      · exact .inl rfl
    · rintro (rfl | ⟨hy, _⟩)
      · exact .inr rfl
      · exact .inl hy

theorem agentAdd_cases (a : Agent) (id : AIdent) :
    agentAdd a id = (a.tick.1, false) ∨ agentAdd a id = (agentAdd.put id a.tick.1, true) := by
  unfold agentAdd
  generalize a.tick = t
  rcases t with ⟨a1, _ | _⟩
  · exact .inl rfl
  · rcases id.cert with _ | c
    · exact .inr rfl
    · by_cases h : c.key = id.key
      · exact .inr (if_neg (not_not_intro h))
      · exact .inl (if_pos h)

theorem mem_agentAdd (a : Agent) (id y : AIdent) :
    y ∈ (agentAdd a id).1.idents ↔
      if (agentAdd a id).2 = true then y = id ∨ (y ∈ a.idents ∧ ¬ (y.key = id.key ∧ y.cert = id.cert))
      else y ∈ a.idents := by
  rcases agentAdd_cases a id with h | h <;> rw [h]
  · exact Iff.rfl
  · exact mem_put a.tick.1 id y

theorem agentAdd_keeps (a : Agent) (id x : AIdent) (hx : x ∈ a.idents)
    (hne : ¬ (x.key = id.key ∧ x.cert = id.cert)) : x ∈ (agentAdd a id).1.idents := by
  rw [mem_agentAdd]
  split
  · exact .inr ⟨hx, hne⟩
  · exact hx

theorem mem_agentRemove (a : Agent) (id x : AIdent) :
    x ∈ (agentRemove a id).1.idents ↔
      x ∈ a.idents ∧ ((agentRemove a id).2 = true → ¬ (x.key = id.key ∧ x.cert = id.cert)) := by
  unfold agentRemove
  dsimp only
  split
  · simp [tick_idents]
  · split
    · show x ∈ swapRemoveAll _ (2 * a.idents.length + 1) 0 a.idents ↔ _
      rw [mem_swapRemoveAll']
      simp
    · simp [tick_idents]

theorem regularAuth_cases (conf : Conf) (p : Param) (w : World) :
    regularAuth conf p w = (w, [], some .handlerAuthN) ∨
    ∃ pk, p.nons = true ∧ p.hardKey = false ∧ registeredKey conf.dir = some pk ∧
      regularAuth conf p w =
        ({ w with rng := w.rng + 1, agent := (agentSign w.agent pk w.rng).1 },
         [.agentSign pk w.rng (agentSign w.agent pk w.rng).2.isSome],
         if (agentSign w.agent pk w.rng).2.any (verifies pk w.rng) then none else some .handlerAuthN) := by
  unfold regularAuth
  cases p.nons with
  | false => exact .inl rfl
  | true =>
    cases p.hardKey with
    | true => exact .inl rfl
    | false =>
      cases registeredKey conf.dir with
      | none => exact .inl rfl
      | some pk =>
        refine .inr ⟨pk, rfl, rfl, rfl, ?_⟩
        dsimp only
        rcases agentSign w.agent pk w.rng with ⟨a, _ | sig⟩
        · rfl
        · cases hv : verifies pk w.rng sig <;> simp [hv]

theorem regularAuth_ok (conf : Conf) (p : Param) (w : World) (h : (regularAuth conf p w).2.2 = none) :
    ∃ pk sig, p.nons = true ∧ p.hardKey = false ∧ registeredKey conf.dir = some pk ∧
      (agentSign w.agent pk w.rng).2 = some sig ∧ verifies pk w.rng sig = true ∧
      (regularAuth conf p w).2.1 = [.agentSign pk w.rng true] ∧ (regularAuth conf p w).1.rng = w.rng + 1 := by
  rcases regularAuth_cases conf p w with hr | ⟨pk, hn, hh, hpk, hr⟩ <;> rw [hr] at h ⊢
  · cases h
  · rcases hs : (agentSign w.agent pk w.rng).2 with _ | sig <;> rw [hs] at h
    · cases h
    · have hver : verifies pk w.rng sig = true := by
        split at h
        · assumption
        · cases h
      exact ⟨pk, sig, hn, hh, hpk, hs, hver, rfl, rfl⟩

theorem regularAuth_err_kind (conf : Conf) (p : Param) (w : World) (e : ErrKind)
    (h : (regularAuth conf p w).2.2 = some e) : e = .handlerAuthN := by
  rcases regularAuth_cases conf p w with h' | ⟨pk, _, _, _, h'⟩ <;> rw [h'] at h
  · exact (Option.some.inj h).symm
  · dsimp only at h
    split at h
    · cases h
    · exact (Option.some.inj h).symm

theorem authOf_regular (conf : Conf) (p : Param) (i : Nat) (w : World) :
    authOf conf p i .regular w =
      ((regularAuth conf p w).1, .auth i :: (regularAuth conf p w).2.1, (regularAuth conf p w).2.2) := rfl

theorem authOf_scripted (conf : Conf) (p : Param) (i : Nat) (s : Scripted) (w : World) :
    (authOf conf p i (.scripted s) w).1 = w ∧ (authOf conf p i (.scripted s) w).2.1 = [.auth i] := by
  cases s <;> exact ⟨rfl, rfl⟩

theorem caSign_trace (k : Key) (w : World) : (caSign k w).2.1 = [.caSign k (caSign k w).2.2.isOk] := by
  unfold caSign
  split
  · rfl
  · split <;> rfl

theorem caSign_err (k : Key) (w : World) (e : ErrKind) (h : (caSign k w).2.2 = .error e) :
    e = .signerSign ∨ e = .panic := by
  unfold caSign at h
  split at h
  · exact .inl (Except.error.inj h).symm
  · split at h
    · cases h
    · cases h
    · cases h
    · cases h
    · exact .inl (Except.error.inj h).symm
    · exact .inr (Except.error.inj h).symm

theorem caSign_frame (k : Key) (w : World) : (caSign k w).1.agent = w.agent ∧ (caSign k w).1.rng = w.rng := by
  unfold caSign
  split
  · exact ⟨rfl, rfl⟩
  · split <;> exact ⟨rfl, rfl⟩

theorem regularGenerate_eq (conf : Conf) (p : Param) (w : World) :
    regularGenerate conf p w =
      let k := Key.fresh w.rng
      let lt := lifetimeOf conf.validity
      let r := agentAdd w.agent ⟨k, none, privateKeyLabel, lt⟩
      ({ w with rng := w.rng + 1, agent := r.1 }, [.agentAdd k none lt privateKeyLabel r.2],
       if r.2 = true then
         match conf.keyIds.lookup p.caAlgo with
         | none => .error .handlerConf
         | some ident => .ok (k, ⟨ident, conf.validity, [p.logName], defaultExtensions, k, regularKeyID p⟩)
       else .error .handlerGenCSR) := by
  unfold regularGenerate
  dsimp only
  rcases agentAdd w.agent ⟨.fresh w.rng, none, privateKeyLabel, lifetimeOf conf.validity⟩ with ⟨a, _ | _⟩
  · rfl
  · cases conf.keyIds.lookup p.caAlgo <;> rfl

theorem regularGenerate_ok_iff (conf : Conf) (p : Param) (w : World) (k : Key) (csr : CSR) :
    (regularGenerate conf p w).2.2 = .ok (k, csr) ↔
      (agentAdd w.agent ⟨.fresh w.rng, none, privateKeyLabel, lifetimeOf conf.validity⟩).2 = true ∧
      ∃ ident, conf.keyIds.lookup p.caAlgo = some ident ∧ k = .fresh w.rng ∧
        csr = ⟨ident, conf.validity, [p.logName], defaultExtensions, .fresh w.rng, regularKeyID p⟩ := by
  rw [regularGenerate_eq]
  dsimp only
  cases (agentAdd w.agent ⟨.fresh w.rng, none, privateKeyLabel, lifetimeOf conf.validity⟩).2 with
  | false => simp
  | true =>
    cases conf.keyIds.lookup p.caAlgo with
    | none => simp
    | some ident => simp [eq_comm]

/-- `R w t ok w'`: a piece of a run that starts in `w` may emit `t` and end in `w'`, having succeeded
    if `ok`; with `ok = false` it says what holds whether or not the piece succeeded (`weaken`). -/
structure Stagewise (R : World → Trace → Bool → World → Prop) : Prop where
  nil : ∀ w, R w [] true w
  seq : ∀ {w t w' t' ok w''}, R w t true w' → R w' t' ok w'' → R w (t ++ t') ok w''
  weaken : ∀ {w t w'}, R w t true w' → R w t false w'

theorem Stagewise.toFalse {R} (hR : Stagewise R) {w t w'} : ∀ {ok}, R w t ok w' → R w t false w'
  | true, h => hR.weaken h
  | false, h => h

theorem Stagewise.of (Q : World → Trace → World → Prop) (nil : ∀ w, Q w [] w)
    (append : ∀ {w t w' t' w''}, Q w t w' → Q w' t' w'' → Q w (t ++ t') w'') :
    Stagewise fun w t _ w' => Q w t w' :=
  ⟨nil, append, id⟩

theorem Stagewise.events (P : Event → Prop) : Stagewise fun _ t _ _ => ∀ e ∈ t, P e :=
  .of (fun _ t _ => ∀ e ∈ t, P e) (fun _ => by simp) (fun h1 h2 e he => (List.mem_append.1 he).elim (h1 e) (h2 e))

theorem Stagewise.eventsOfOk (P : Event → Prop) : Stagewise fun _ t ok _ => ok = true → ∀ e ∈ t, P e :=
  ⟨fun _ _ => by simp, fun h1 h2 hok e he => (List.mem_append.1 he).elim (h1 rfl e) (h2 hok e),
   fun _ h => by cases h⟩

theorem Stagewise.idents (Q : List AIdent → Prop) :
    Stagewise fun w _ _ w' => Q w.agent.idents → Q w'.agent.idents :=
  .of (fun w _ w' => Q w.agent.idents → Q w'.agent.idents) (fun _ => id) (fun h1 h2 => h2 ∘ h1)

theorem signAll_stagewise {R} (hR : Stagewise R) (k : Key)
    (hca : ∀ w, R w (caSign k w).2.1 (caSign k w).2.2.isOk (caSign k w).1) (n : Nat) (w : World) :
    R w (signAll k n w).2.1 (signAll k n w).2.2.isOk (signAll k n w).1 := by
  induction n generalizing w with
  | zero => exact hR.nil w
  | succ n ih =>
    have h1 := hca w
    unfold signAll
    generalize caSign k w = c at h1 ⊢
    rcases c with ⟨w1, tr, e | cs⟩
    · exact h1
    · have h2 := ih w1
      dsimp only at h1 ⊢
      generalize signAll k n w1 = c at h2 ⊢
      rcases c with ⟨w2, tr2, e | cs2⟩ <;> exact hR.seq h1 h2

theorem signAll_agent (k : Key) (n : Nat) (w : World) : (signAll k n w).1.agent = w.agent :=
  signAll_stagewise (.of (fun w _ w' => w'.agent = w.agent) (fun _ => rfl) (fun h1 h2 => h2.trans h1)) k
    (fun w => (caSign_frame k w).1) n w

theorem signAll_events (k : Key) (n : Nat) (w : World) : ∀ e ∈ (signAll k n w).2.1, ∃ ok, e = .caSign k ok :=
  signAll_stagewise (.events _) k (fun w => by rw [caSign_trace]; exact List.forall_mem_singleton.2 ⟨_, rfl⟩) n w

theorem signAll_ok_mem (k : Key) (n : Nat) (w : World) (h : (signAll k (n + 1) w).2.2.isOk = true) :
    .caSign k true ∈ (signAll k (n + 1) w).2.1 := by
  have ht := caSign_trace k w
  unfold signAll at h ⊢
  generalize caSign k w = c at h ht ⊢
  rcases c with ⟨w1, tr, e | cs⟩
  · cases h
  · dsimp only at ht ⊢
    subst ht
    split <;> exact List.mem_append_left _ (List.mem_singleton.2 rfl)

/-- asking handler `i` is the marker and, for the regular handler, its `Authenticate` -/
theorem authOf_stagewise {R} (hR : Stagewise R) (conf : Conf) (p : Param)
    (hask : ∀ i w, R w [.auth i] true w)
    (hreg : ∀ w, R w (regularAuth conf p w).2.1 true (regularAuth conf p w).1)
    (i : Nat) (h : Handler) (w : World) : R w (authOf conf p i h w).2.1 true (authOf conf p i h w).1 := by
  cases h with
  | regular => exact hR.seq (hask i w) (hreg w)
  | scripted s =>
    obtain ⟨h1, h2⟩ := authOf_scripted conf p i s w
    rw [h1, h2]
    exact hask i w

/-- every handler that is asked is one stage; the asking counts as succeeded whatever the handler
    answers, so that the loop goes on after a refusal -/
theorem selectHandler_stagewise {R} (hR : Stagewise R) (conf : Conf) (p : Param)
    (hauth : ∀ i h w, R w (authOf conf p i h w).2.1 true (authOf conf p i h w).1)
    (i : Nat) (hs : List Handler) (w : World) :
    R w (selectHandler conf p i hs w).2.1 true (selectHandler conf p i hs w).1 := by
  induction hs generalizing i w with
  | nil => exact hR.nil w
  | cons h rest ih =>
    have h1 := hauth i h w
    unfold selectHandler
    generalize authOf conf p i h w = c at h1 ⊢
    split
    · exact h1
    · exact h1
    · exact hR.seq h1 (ih (i + 1) _)

/-- `refreshKeys` as a loop over the listing.  `C a tr ok` speaks of the agent, the trace so far and
    whether every request so far was granted. -/
theorem removes_induct (C : Agent → Trace → Bool → Prop) (ids : List AIdent)
    (hrem : ∀ a tr id, id ∈ ids → containsSub handlerName id.comment = true → C a tr true →
      C (agentRemove a id).1 (tr ++ [.agentRemove id.key id.cert (agentRemove a id).2]) (agentRemove a id).2)
    (a : Agent) (tr : Trace) (h : C a tr true) :
    C (addCerts.removes a tr ids).1 (addCerts.removes a tr ids).2.1 (addCerts.removes a tr ids).2.2 := by
  induction ids generalizing a tr with
  | nil => exact h
  | cons id r ih =>
    have ih' := ih fun a tr id hid => hrem a tr id (List.mem_cons_of_mem _ hid)
    unfold addCerts.removes
    split
    · rename_i hc
      have h1 := hrem a tr id (List.mem_cons_self ..) hc h
      generalize agentRemove a id = c at h1 ⊢
      rcases c with ⟨a', _ | _⟩
      · exact h1
      · exact ih' _ _ h1
    · exact ih' a tr h

/-- the record `AddCertsToAgent` stores for certificate `c` -/
def certRec (k : Key) (lt : Nat) (c : CertV) : AIdent := ⟨k, some c, certLabel, lt⟩

/-- The adds of `AddCertsToAgent` as a loop over the reply.  At a certificate for another key the
    loop ends with nothing sent: `hstop`. -/
theorem adds_induct (C : Agent → Trace → Bool → Prop) (k : Key) (lt : Nat) (cs : List (Option CertV))
    (hstop : ∀ a tr, C a tr true → C a tr false)
    (hadd : ∀ a tr c, some c ∈ cs → c.key = k → C a tr true →
      C (agentAdd a (certRec k lt c)).1 (tr ++ [.agentAdd k (some c) lt certLabel (agentAdd a (certRec k lt c)).2])
        (agentAdd a (certRec k lt c)).2)
    (a : Agent) (tr : Trace) (h : C a tr true) :
    C (addCerts.adds k lt a tr cs).1 (addCerts.adds k lt a tr cs).2.1 (addCerts.adds k lt a tr cs).2.2 := by
  induction cs generalizing a tr with
  | nil => exact h
  | cons c r ih =>
    have ih' := ih fun a tr c hc => hadd a tr c (List.mem_cons_of_mem _ hc)
    unfold addCerts.adds
    cases c with
    | none => exact ih' a tr h
    | some c =>
      dsimp only
      split
      · exact hstop a tr h
      · rename_i hk
        have h1 := hadd a tr c (List.mem_cons_self ..) (Decidable.not_not.1 hk) h
        unfold certRec at h1
        generalize agentAdd a ⟨k, some c, certLabel, lt⟩ = c' at h1 ⊢
        rcases c' with ⟨a', _ | _⟩
        · exact h1
        · exact ih' _ _ h1

/-- `AddCertsToAgent` request by request.  The worlds differ from `w` in the agent only: `a` is whatever
    agent the two loops have reached, and what `refreshKeys` asks to remove is among the identities of
    the listing, `w.agent.idents`. -/
theorem addCerts_stagewise {R} (hR : Stagewise R) {conf : Conf} {k : Key} {certs : List (Option CertV)} {w : World}
    (hlist : R w [.agentList (agentList w.agent).2.isSome] (agentList w.agent).2.isSome
      { w with agent := (agentList w.agent).1 })
    (hrem : ∀ a id, id ∈ w.agent.idents → containsSub handlerName id.comment = true →
      R { w with agent := a } [.agentRemove id.key id.cert (agentRemove a id).2] (agentRemove a id).2
        { w with agent := (agentRemove a id).1 })
    (hadd : ∀ a c, some c ∈ certs → c.key = k →
      R { w with agent := a }
        [.agentAdd k (some c) (lifetimeOf conf.validity) certLabel (agentAdd a (certRec k (lifetimeOf conf.validity) c)).2]
        (agentAdd a (certRec k (lifetimeOf conf.validity) c)).2
        { w with agent := (agentAdd a (certRec k (lifetimeOf conf.validity) c)).1 }) :
    R w (addCerts conf k certs w).2.1 (addCerts conf k certs w).2.2 (addCerts conf k certs w).1 := by
  unfold addCerts
  split
  · rename_i heq
    rw [heq] at hlist
    exact hlist
  · rename_i a ids heq
    have hids : ids = w.agent.idents := (agentList_some heq).1
    rw [heq] at hlist
    simp only [Option.isSome_some] at hlist
    have h1 := removes_induct (fun a tr ok => R w tr ok { w with agent := a }) ids
      (fun a tr id hid hc h => hR.seq h (hrem a id (hids ▸ hid) hc)) a _ hlist
    generalize addCerts.removes a [.agentList true] ids = c at h1 ⊢
    rcases c with ⟨a1, tr1, _ | _⟩
    · exact h1
    · exact adds_induct (fun a tr ok => R w tr ok { w with agent := a }) k _ certs (fun _ _ => hR.weaken)
        (fun a tr c hc hk h => hR.seq h (hadd a c hc hk)) _ _ h1

/-- events that issue something: a request generation, a CA call, an addition to the agent -/
def Event.issues : Event → Bool
  | .generate _ | .caSign _ _ | .agentAdd _ _ _ _ _ => true
  | _ => false

/-- a piece of a run that issues nothing, keeps the agent's identities and does not move the random
    source back -/
structure Quiet (w : World) (t : Trace) (w' : World) : Prop where
  issues : ∀ e ∈ t, e.issues = false
  idents : w'.agent.idents = w.agent.idents
  rng : w.rng ≤ w'.rng

theorem Quiet.append {w w' w'' : World} {t t' : Trace} (a : Quiet w t w') (b : Quiet w' t' w'') :
    Quiet w (t ++ t') w'' :=
  ⟨fun e he => (List.mem_append.1 he).elim (a.issues e) (b.issues e), b.idents.trans a.idents,
    Nat.le_trans a.rng b.rng⟩

theorem Quiet.stagewise : Stagewise fun w t _ w' => Quiet w t w' :=
  .of Quiet (fun _ => ⟨by simp, rfl, Nat.le_refl _⟩) .append

theorem regularAuth_quiet (conf : Conf) (p : Param) (w : World) :
    Quiet w (regularAuth conf p w).2.1 (regularAuth conf p w).1 := by
  rcases regularAuth_cases conf p w with h | ⟨pk, _, _, _, h⟩ <;> rw [h]
  · exact Quiet.stagewise.nil w
  · exact ⟨List.forall_mem_singleton.2 rfl, agentSign_idents .., Nat.le_succ _⟩

theorem authOf_quiet (conf : Conf) (p : Param) (i : Nat) (h : Handler) (w : World) :
    Quiet w (authOf conf p i h w).2.1 (authOf conf p i h w).1 :=
  authOf_stagewise Quiet.stagewise conf p (fun _ _ => ⟨List.forall_mem_singleton.2 rfl, rfl, Nat.le_refl _⟩)
    (regularAuth_quiet conf p) i h w

theorem selectHandler_quiet (conf : Conf) (p : Param) (i : Nat) (hs : List Handler) (w : World) :
    Quiet w (selectHandler conf p i hs w).2.1 (selectHandler conf p i hs w).1 :=
  selectHandler_stagewise Quiet.stagewise conf p (authOf_quiet conf p) i hs w

/-- `w0`: some world, its random source not behind `w`'s, in which the selected handler authenticates
    with the trace that ends the loop's trace; `pre`: the part of the loop's trace before that.
    Positions in `hs` count from `i`. -/
theorem selectHandler_ok (conf : Conf) (p : Param) (i : Nat) (hs : List Handler) (w : World) (j : Nat) (h : Handler)
    (hsel : (selectHandler conf p i hs w).2.2 = .ok (j, h)) :
    i ≤ j ∧ hs[j - i]? = some h ∧
    ∃ w0 pre, (authOf conf p j h w0).2.2 = none ∧
      (selectHandler conf p i hs w).2.1 = pre ++ (authOf conf p j h w0).2.1 ∧ w.rng ≤ w0.rng := by
  induction hs generalizing i w with
  | nil => cases hsel
  | cons h0 rest ih =>
    have hrng := (authOf_quiet conf p i h0 w).rng
    unfold selectHandler at hsel ⊢
    split at hsel
    · rename_i heq
      obtain ⟨rfl, rfl⟩ : i = j ∧ h0 = h := by simpa using hsel
      exact ⟨Nat.le_refl _, by simp, w, [], by rw [heq], by rw [heq]; rfl, Nat.le_refl _⟩
    · cases hsel
    · rename_i heq
      rw [heq] at hrng
      obtain ⟨h1, h2, w0, pre, h3, h4, h5⟩ := ih (i + 1) _ hsel
      refine ⟨Nat.le_of_succ_le h1, ?_, w0, _ ++ pre, h3, (congrArg _ h4).trans (List.append_assoc ..).symm,
        Nat.le_trans hrng h5⟩
      rw [List.getElem?_cons, if_neg (Nat.sub_ne_zero_of_lt h1), Nat.sub_sub]
      exact h2

theorem selectHandler_err (conf : Conf) (p : Param) (i : Nat) (hs : List Handler) (w : World) (e : ErrKind)
    (hsel : (selectHandler conf p i hs w).2.2 = .error e) : e = .allAuthFailed ∨ e = .panic := by
  induction hs generalizing i w with
  | nil => exact .inl (Except.error.inj hsel).symm
  | cons h0 rest ih =>
    unfold selectHandler at hsel
    split at hsel
    · cases hsel
    · exact .inr (Except.error.inj hsel).symm
    · exact ih _ _ hsel

theorem selectHandler_regular (conf : Conf) (p : Param) (w : World) :
    selectHandler conf p 0 [.regular] w =
      ((regularAuth conf p w).1, .auth 0 :: (regularAuth conf p w).2.1,
       if (regularAuth conf p w).2.2 = none then .ok (0, .regular) else .error .allAuthFailed) := by
  unfold selectHandler authOf
  rcases hra : regularAuth conf p w with ⟨w1, tr, _ | e⟩
  · rfl
  · obtain rfl := regularAuth_err_kind conf p w e (by rw [hra])
    simp [selectHandler]

/-- What `Run` does once handler `i` has authenticated in world `w1`: the world it ends in, the
    trace after the `generate i` marker, and the result.  A scripted handler touches the world only
    through CA calls (none at all for `n = 0`) and reports success only if they all succeeded. -/
inductive Finish (conf : Conf) (p : Param) (i : Nat) (w1 : World) : Handler → World → Trace → Result → Prop
  | generateFailed (e) : (regularGenerate conf p w1).2.2 = .error e →
      Finish conf p i w1 .regular (regularGenerate conf p w1).1 (regularGenerate conf p w1).2.1 (.err e)
  | signFailed (k csr e) : (regularGenerate conf p w1).2.2 = .ok (k, csr) →
      (signAll k 1 (regularGenerate conf p w1).1).2.2 = .error e →
      Finish conf p i w1 .regular (signAll k 1 (regularGenerate conf p w1).1).1
        ((regularGenerate conf p w1).2.1 ++ (signAll k 1 (regularGenerate conf p w1).1).2.1)
        (.err (if e = .panic then .panic else .signerSign))
  | added (k csr certs) : (regularGenerate conf p w1).2.2 = .ok (k, csr) →
      (signAll k 1 (regularGenerate conf p w1).1).2.2 = .ok certs →
      Finish conf p i w1 .regular (addCerts conf k certs (signAll k 1 (regularGenerate conf p w1).1).1).1
        ((regularGenerate conf p w1).2.1 ++ (signAll k 1 (regularGenerate conf p w1).1).2.1 ++
          (addCerts conf k certs (signAll k 1 (regularGenerate conf p w1).1).1).2.1)
        (if (addCerts conf k certs (signAll k 1 (regularGenerate conf p w1).1).1).2.2 then .ok else .err .agentOpCert)
  | scripted (s n res) : (res = .ok → (signAll (.registered (500 + i)) n w1).2.2.isOk = true) →
      Finish conf p i w1 (.scripted s) (signAll (.registered (500 + i)) n w1).1
        (signAll (.registered (500 + i)) n w1).2.1 res

theorem run_of_refused {conf : Conf} {p : Param} {hs : List Handler} {w w1 : World} {tr : Trace} {e : ErrKind}
    (hsel : selectHandler conf p 0 hs w = (w1, tr, .error e)) : run conf p hs w = (w1, tr, .err e) := by
  unfold run
  rw [hsel]

theorem run_of_selected {conf : Conf} {p : Param} {hs : List Handler} {w w1 : World} {tr : Trace} {i : Nat}
    {h : Handler} (hsel : selectHandler conf p 0 hs w = (w1, tr, .ok (i, h))) :
    ∃ w' t r, Finish conf p i w1 h w' t r ∧ run conf p hs w = (w', tr ++ .generate i :: t, r) := by
  unfold run
  rw [hsel]
  cases h with
  | regular =>
    dsimp only
    rcases hG : regularGenerate conf p w1 with ⟨w2, t2, e | ⟨k, csr⟩⟩
    · have hf := Finish.generateFailed (i := i) e (congrArg (·.2.2) hG)
      rw [hG] at hf
      exact ⟨_, _, _, hf, rfl⟩
    · dsimp only
      rcases hS : signAll k 1 w2 with ⟨w3, t3, e | certs⟩
      · have hf := Finish.signFailed (i := i) k csr e (congrArg (·.2.2) hG) (by rw [hG, hS])
        rw [hG, hS] at hf
        refine ⟨_, _, _, hf, ?_⟩
        by_cases he : e = .panic <;> simp [he]
      · have hf := Finish.added (i := i) k csr certs (congrArg (·.2.2) hG) (by rw [hG, hS])
        rw [hG, hS] at hf
        refine ⟨_, _, _, hf, ?_⟩
        dsimp only
        rcases addCerts conf k certs w3 with ⟨w4, t4, _ | _⟩ <;> simp
  | scripted s =>
    -- every script ends as `signAll _ n w1` does, for some `n`; one that signs nothing is `signAll _ 0`
    have fin : ∀ n w3 t3 o (res : Result), signAll (.registered (500 + i)) n w1 = (w3, t3, o) →
        (res = .ok → o.isOk = true) →
        ∃ w' t r, Finish conf p i w1 (.scripted s) w' t r ∧
          ((w3, tr ++ [.generate i] ++ t3, res) : World × Trace × Result) = (w', tr ++ .generate i :: t, r) :=
      fun n w3 t3 o res h hok => ⟨_, _, _, .scripted s n res (by rw [h]; exact hok), by rw [h]; simp⟩
    cases s with
    | genKey n addErr addPanic =>
      dsimp only
      split
      · exact fin n _ _ _ _ ‹_› (fun h => nomatch h)
      · exact fin n _ _ _ _ ‹_› (fun h => nomatch h)
      · cases addPanic
        · cases addErr
          · exact fin n _ _ _ _ ‹_› (fun _ => rfl)
          · exact fin n _ _ _ _ ‹_› (fun h => nomatch h)
        · exact fin n _ _ _ _ ‹_› (fun h => nomatch h)
    | genKeyNamePanic n =>
      dsimp only
      split
      · exact fin n _ _ _ _ ‹_› (fun h => nomatch h)
      · exact fin n _ _ _ _ ‹_› (fun h => nomatch h)
      · exact fin n _ _ _ _ ‹_› (fun h => nomatch h)
    | genErr _ | genPanic | genEmpty | reject | authPanic | namePanicAfterReject =>
      refine ⟨_, _, _, .scripted _ 0 _ ?_, rfl⟩
      exact fun h => nomatch h

theorem run_cases (conf : Conf) (p : Param) (hs : List Handler) (w : World) :
    (∃ e, (selectHandler conf p 0 hs w).2.2 = .error e ∧
      run conf p hs w = ((selectHandler conf p 0 hs w).1, (selectHandler conf p 0 hs w).2.1, .err e)) ∨
    (∃ i h w' t r, (selectHandler conf p 0 hs w).2.2 = .ok (i, h) ∧
      Finish conf p i (selectHandler conf p 0 hs w).1 h w' t r ∧
      run conf p hs w = (w', (selectHandler conf p 0 hs w).2.1 ++ .generate i :: t, r)) := by
  rcases hsel : selectHandler conf p 0 hs w with ⟨w1, tr, e | ⟨i, h⟩⟩
  · exact .inl ⟨e, rfl, run_of_refused hsel⟩
  · obtain ⟨w', t, r, hf, hrun⟩ := run_of_selected hsel
    exact .inr ⟨i, h, w', t, r, rfl, hf, hrun⟩

theorem Finish.stagewise {R} (hR : Stagewise R) {conf : Conf} {p : Param} {i : Nat} {w1 w' : World} {h : Handler}
    {t : Trace} {r : Result}
    (hgen : ∀ w, R w (regularGenerate conf p w).2.1 (regularGenerate conf p w).2.2.isOk (regularGenerate conf p w).1)
    (hca : ∀ k w, R w (caSign k w).2.1 (caSign k w).2.2.isOk (caSign k w).1)
    (hadd : ∀ n certs w, R w (addCerts conf (.fresh n) certs w).2.1 (addCerts conf (.fresh n) certs w).2.2
      (addCerts conf (.fresh n) certs w).1)
    (hf : Finish conf p i w1 h w' t r) : R w1 t (decide (r = .ok)) w' := by
  cases hf with
  | generateFailed e hg =>
    have h2 := hgen w1
    rw [hg] at h2
    exact h2
  | signFailed k csr e hg hsg =>
    have h2 := hgen w1
    rw [hg] at h2
    have h3 := signAll_stagewise hR k (hca k) 1 (regularGenerate conf p w1).1
    rw [hsg] at h3
    exact hR.seq h2 h3
  | added k csr certs hg hsg =>
    have h2 := hgen w1
    rw [hg] at h2
    have h3 := signAll_stagewise hR k (hca k) 1 (regularGenerate conf p w1).1
    rw [hsg] at h3
    obtain ⟨_, _, _, rfl, _⟩ := (regularGenerate_ok_iff conf p w1 k csr).1 hg
    have := hR.seq (hR.seq h2 h3) (hadd w1.rng certs _)
    generalize (addCerts conf (.fresh w1.rng) certs _).2.2 = ok at this ⊢
    cases ok <;> exact this
  | scripted s n r hok =>
    have h3 := signAll_stagewise hR _ (hca (.registered (500 + i))) n w1
    cases hr : decide (r = .ok) with
    | false => exact hR.toFalse h3
    | true =>
      rw [hok (of_decide_eq_true hr)] at h3
      exact h3

/-- The flag is `r = .ok`: a run has no other outcome that counts as success.  `hadd` is asked for the
    keys `Run` hands to `AddCertsToAgent` only, which are fresh draws (`regularGenerate_ok_iff`); that
    they are not long-term keys is what keeps foreign identities in place. -/
theorem run_stagewise {R} (hR : Stagewise R) (conf : Conf) (p : Param)
    (hask : ∀ i w, R w [.auth i] true w)
    (hreg : ∀ w, R w (regularAuth conf p w).2.1 true (regularAuth conf p w).1)
    (hmark : ∀ i w, R w [.generate i] true w)
    (hgen : ∀ w, R w (regularGenerate conf p w).2.1 (regularGenerate conf p w).2.2.isOk (regularGenerate conf p w).1)
    (hca : ∀ k w, R w (caSign k w).2.1 (caSign k w).2.2.isOk (caSign k w).1)
    (hadd : ∀ n certs w, R w (addCerts conf (.fresh n) certs w).2.1 (addCerts conf (.fresh n) certs w).2.2
      (addCerts conf (.fresh n) certs w).1)
    (hs : List Handler) (w : World) :
    R w (run conf p hs w).2.1 (decide ((run conf p hs w).2.2 = .ok)) (run conf p hs w).1 := by
  have hsel := selectHandler_stagewise hR conf p (authOf_stagewise hR conf p hask hreg) 0 hs w
  rcases run_cases conf p hs w with ⟨e, _, hrun⟩ | ⟨i, h, w', t, r, _, hf, hrun⟩ <;> rw [hrun]
  · exact hR.weaken hsel
  · exact hR.seq hsel (hR.seq (hmark i _) (hf.stagewise hR hgen hca hadd))

end Ysshra.Gensign

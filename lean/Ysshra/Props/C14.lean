import Ysshra.Model.Param
import Ysshra.Lemmas.Message
import Ysshra.Lemmas.Text
/-
C14 — request parameters parse totally and come from the server-side environment.
-/
namespace Ysshra
namespace C14
open Text Message

/-- the attributes `NewReqParam` works with, as bytes -/
def attrsOf (utf8 : Str → Bytes) : Decoded → AttrsB
  | .json a => toB utf8 a
  | .legacy a => a

/-- If `if c then e else x` came out as `r` and `e` is not `r`, the guard did not fire and `x = r`.
    (`split at h` says the same but runs `simp` over all of `h`, which is slow on the terms below.) -/
theorem guard_passed {α} {c : Prop} [Decidable c] {e x r : α} (h : (if c then e else x) = r)
    (he : e ≠ r) : ¬c ∧ x = r := by
  by_cases hc : c
  · exact absurd ((if_pos hc).symm.trans h) he
  · exact ⟨hc, (if_neg hc).symm.trans h⟩

/-- Building the parameters never crashes, for every original-command text (any token tree or
    none, any bytes), every LOGNAME / SSH_CONNECTION and every argument vector. -/
theorem c14_total (utf8 : Str → Bytes) (ipOK : Bytes → Bool) (rnd : Bytes) (e : Env) :
    newReqParam utf8 ipOK rnd e ≠ .crash := by
  unfold newReqParam
  cases hm : unmarshal e.cmdTok e.cmdRaw with
  | crash => exact absurd hm (unmarshal_ne_crash _ _)
  | err => simp
  | ok d =>
    dsimp only
    intro h
    obtain ⟨-, h⟩ := guard_passed h nofun
    obtain ⟨-, h⟩ := guard_passed h nofun
    repeat' split at h
    all_goals cases h

/-- `parseForceCommand` returns the second-last and last of 3..6 space-separated tokens, and the
    policy is one of the two defined values. -/
theorem forceCommand_spec (argv : List Bytes) (pol h : Bytes)
    (hp : parseForceCommand argv = some (pol, h)) :
    let toks := argv.flatMap (splitOn 0x20)
    3 ≤ toks.length ∧ toks.length ≤ 6 ∧ toks[toks.length - 2]? = some pol ∧
    toks[toks.length - 1]? = some h ∧ (pol = NONS ∨ pol = NSOK) := by
  unfold parseForceCommand at hp
  obtain ⟨h3, hp⟩ := guard_passed hp nofun
  obtain ⟨h6, hp⟩ := guard_passed hp nofun
  split at hp
  · rename_i pol' h' h1 h2
    split at hp
    · rename_i hv
      cases hp
      refine ⟨Nat.le_of_not_lt h3, Nat.le_of_not_lt h6, h1, h2, ?_⟩
      simpa [validPolicy] using hv
    · cases hp
  · cases hp

theorem hexLower_length (b : Bytes) : (hexLower b).length = 2 * b.length := by
  induction b with
  | nil => rfl
  | cons x r ih => simp [hexLower, List.flatMap_cons] at *; omega

def isLowerHex (c : UInt8) : Bool := (48 ≤ c.toNat && c.toNat ≤ 57) || (97 ≤ c.toNat && c.toNat ≤ 102)

theorem isLowerHex_hexDigit : ∀ n < 16, isLowerHex (hexDigit n).toNat.toUInt8 = true := by decide

theorem hexLower_alphabet (b : Bytes) : ∀ c ∈ hexLower b, isLowerHex c = true := by
  intro c hc
  simp only [hexLower, List.mem_flatMap, List.mem_cons, List.not_mem_nil, or_false] at hc
  obtain ⟨x, _, rfl | rfl⟩ := hc
  · exact isLowerHex_hexDigit _ (by have := x.toNat_lt; omega)
  · exact isLowerHex_hexDigit _ (by omega)

/-- Everything a successful call returns comes from where the property says it comes from. -/
theorem c14_sound (utf8 : Str → Bytes) (ipOK : Bytes → Bool) (rnd : Bytes) (e : Env) (p : ReqParam)
    (hr : rnd.length = 5) (h : newReqParam utf8 ipOK rnd e = .ok p) :
    -- login name: the non-empty server-provided one
    p.LogName = e.logname ∧ e.logname ≠ [] ∧
    -- client IP: first field of SSH_CONNECTION, syntactically valid
    p.ClientIP = firstField e.sshConnection ∧ ipOK p.ClientIP = true ∧
    -- namespace policy and handler: from the forced command
    (let toks := e.argv.flatMap (splitOn 0x20)
     3 ≤ toks.length ∧ toks.length ≤ 6 ∧ toks[toks.length - 2]? = some p.NamespacePolicy ∧
     toks[toks.length - 1]? = some p.HandlerName) ∧
    (p.NamespacePolicy = NONS ∨ p.NamespacePolicy = NSOK) ∧
    -- transaction id: ten lower-case hex digits of the five fresh random bytes
    p.TransID = hexLower rnd ∧ p.TransID.length = 10 ∧ (∀ c ∈ p.TransID, isLowerHex c = true) ∧
    -- client claims: copied verbatim into their own fields; version as declared, 0.0 when omitted
    ∃ d, unmarshal e.cmdTok e.cmdRaw = .ok d ∧
      p.ReqUser = (attrsOf utf8 d).Username ∧ p.ReqHost = (attrsOf utf8 d).Hostname ∧
      (((attrsOf utf8 d).SSHClientVersion = [] ∧ p.SSHClientVersion = ⟨0, 0⟩) ∨
       ((attrsOf utf8 d).SSHClientVersion ≠ [] ∧
        versionUnmarshal (attrsOf utf8 d).SSHClientVersion = some p.SSHClientVersion)) := by
  unfold newReqParam at h
  cases hm : unmarshal e.cmdTok e.cmdRaw with
  | crash => simp [hm] at h
  | err => simp [hm] at h
  | ok d =>
    simp only [hm] at h
    obtain ⟨hlog, h⟩ := guard_passed h nofun
    obtain ⟨hip, h⟩ := guard_passed h nofun
    split at h
    · cases h
    · rename_i pol hn hpf
      have hfc := forceCommand_spec _ _ _ hpf
      split at h
      · cases h
      · rename_i v hv
        cases h
        refine ⟨rfl, ?_, rfl, by simpa using hip, ⟨hfc.1, hfc.2.1, hfc.2.2.1, hfc.2.2.2.1⟩,
          hfc.2.2.2.2, rfl, ?_, hexLower_alphabet rnd, d, rfl, ?_, ?_, ?_⟩
        · intro he; simp [he] at hlog
        · rw [hexLower_length, hr]
        -- `attrsOf utf8 d` and the `match d with …` inside `newReqParam` are different matchers,
        -- equal only after `cases d`
        · cases d <;> rfl
        · cases d <;> rfl
        · have hv' : (if (attrsOf utf8 d).SSHClientVersion.isEmpty = true then some (⟨0, 0⟩ : Version)
              else versionUnmarshal (attrsOf utf8 d).SSHClientVersion) = some v := by
            cases d <;> exact hv
          cases hx : (attrsOf utf8 d).SSHClientVersion with
          | nil =>
            rw [hx] at hv'
            exact .inl ⟨rfl, (Option.some.inj hv').symm⟩
          | cons c r =>
            rw [hx] at hv'
            exact .inr ⟨List.cons_ne_nil _ _, hv'⟩

/-- `version.Unmarshal` accepts exactly `digits.digits` with both numbers below 2^16. -/
theorem version_spec (s : Bytes) (v : Version) (h : versionUnmarshal s = some v) :
    ∃ a b, s = a ++ 0x2e :: b ∧ a ≠ [] ∧ b ≠ [] ∧ a.all isDigit = true ∧ b.all isDigit = true ∧
      v.major = digitsVal a ∧ v.minor = digitsVal b ∧ v.major < 65536 ∧ v.minor < 65536 := by
  unfold versionUnmarshal at h
  split at h
  · cases h
  · rename_i a b hc
    obtain ⟨-, h⟩ := guard_passed h nofun
    split at h
    · rename_i x y hx hy
      cases h
      obtain ⟨hs, _⟩ := cutAt_eq_some_iff.1 hc
      obtain ⟨x1, x2, x3, x4⟩ := parseUint_eq_some_iff.1 hx
      obtain ⟨y1, y2, y3, y4⟩ := parseUint_eq_some_iff.1 hy
      exact ⟨a, b, hs, x2, y2, x3, y3, x4, y4, by simpa using x1, by simpa using y1⟩
    · cases h

/-- Non-vacuity: a concrete JSON request with the usual forced command succeeds. -/
example :
    (match (newReqParam (fun s => s.map (fun c => c.toNat.toUInt8)) (fun _ => true) [1, 2, 3, 4, 5]
      ⟨some (.obj [(c!"ifVer", .num (.ofInt 7)), (c!"username", .str c!"u"), (c!"hostname", .str c!"h"),
                   (c!"sshClientVersion", .str c!"8.1")]), [],
       b!"alice", b!"10.0.0.1 1234 10.0.0.2 22", [b!"gensign", b!"-c", b!"/usr/bin/gensign NONS regular"]⟩ : Res ReqParam) with
     | .ok p => decide (p.LogName = b!"alice" ∧ p.NamespacePolicy = NONS ∧ p.SSHClientVersion = ⟨8, 1⟩ ∧
                p.TransID = b!"0102030405")
     | _ => false) = true := by decide

end C14
end Ysshra

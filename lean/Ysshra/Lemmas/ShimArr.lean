import Ysshra.Lemmas.Shim
import Ysshra.Lemmas.SwapAt
/-
The in-agent half of `filterExpiredCerts`: the loop walks the *original* index range over a live
backing array from which `remove` swap-removes entries.  A swap-removal is the removal of the
first entry with that blob, up to order (`swapRemove_perm`); only the loop invariant speaks of
positions.
-/
namespace Ysshra.Shim
open Ysshra List

/-- entries of a slice have pairwise different public blobs (the keyring replaces on add) -/
def Distinct (l : List Ident) : Prop :=
  ∀ (i j : Nat) (x y : Ident), l[i]? = some x → l[j]? = some y → x.blob = y.blob → i = j

theorem distinct_iff_pairwise (l : List Ident) : Distinct l ↔ l.Pairwise (·.blob ≠ ·.blob) := by
  rw [List.pairwise_iff_getElem]
  constructor
  · intro h i j hi hj hij e
    have := h i j _ _ (List.getElem?_eq_getElem hi) (List.getElem?_eq_getElem hj) e
    omega
  · intro h i j x y hx hy e
    obtain ⟨hi, rfl⟩ := List.getElem?_eq_some_iff.1 hx
    obtain ⟨hj, rfl⟩ := List.getElem?_eq_some_iff.1 hy
    rcases Nat.lt_trichotomy i j with hij | hij | hij
    · exact absurd e (h i j hi hj hij)
    · exact hij
    · exact absurd e.symm (h j i hj hi hij)

/-- among entries with different blobs, dropping the first entry for `b` drops every entry for `b` -/
theorem mem_eraseP_blob {l : List Ident} (hd : Distinct l) (b : Blob) (x : Ident) :
    x ∈ l.eraseP (·.blob = b) ↔ x ∈ l ∧ x.blob ≠ b := by
  by_cases hx : x.blob = b
  · refine ⟨fun h => ?_, fun h => absurd hx h.2⟩
    exfalso
    obtain ⟨a, l₁, l₂, h₁, ha, rfl, he⟩ :=
      List.exists_of_eraseP (p := fun y : Ident => decide (y.blob = b)) (List.mem_of_mem_eraseP h) (by simpa using hx)
    rw [he] at h
    rw [distinct_iff_pairwise, List.pairwise_append] at hd
    rcases List.mem_append.1 h with h | h
    · exact h₁ x h (by simpa using hx)
    · exact (List.pairwise_cons.1 hd.2.1).1 x h (by simpa [hx] using ha)
  · simp [hx]

/-- well-formed slice header -/
def KeyArr.WF (ka : KeyArr) : Prop := ka.len ≤ ka.arr.length

theorem KeyArr.live_getElem? (ka : KeyArr) (t : Nat) : ka.live[t]? = if t < ka.len then ka.arr[t]? else none := by
  unfold KeyArr.live; exact List.getElem?_take

theorem KeyArr.live_length (ka : KeyArr) (hwf : ka.WF) : ka.live.length = ka.len := by
  unfold KeyArr.live; rw [List.length_take]; exact Nat.min_eq_left hwf

/-- nothing is found and nothing changes, or the first entry for `b` sits at `j` inside the slice and
    the last entry of the slice is written over it -/
theorem swapRemove_cases (ka : KeyArr) (b : Blob) (hwf : ka.WF) :
    (ka.live.findIdx? (·.blob = b) = none ∧ swapRemove ka b = ka) ∨
    ∃ j, ∃ hlast : ka.len - 1 < ka.arr.length, ka.live.findIdx? (·.blob = b) = some j ∧ j < ka.len ∧
      swapRemove ka b = ⟨ka.arr.set j ka.arr[ka.len - 1], ka.len - 1⟩ := by
  unfold swapRemove
  cases hj : ka.live.findIdx? (·.blob = b) with
  | none => exact .inl ⟨rfl, rfl⟩
  | some j =>
    obtain ⟨hjl, -, -⟩ := List.findIdx?_eq_some_iff_getElem.mp hj
    rw [ka.live_length hwf] at hjl
    have hlast : ka.len - 1 < ka.arr.length := by unfold KeyArr.WF at hwf; omega
    exact .inr ⟨j, hlast, rfl, hjl, by rw [List.getElem?_eq_getElem hlast]⟩

/-- last conjunct: positions behind an index whose live entry (if any) has the removed blob are not
    written -/
theorem swapRemove_shape (ka : KeyArr) (b : Blob) (hwf : ka.WF) :
    (swapRemove ka b).WF ∧ (swapRemove ka b).arr.length = ka.arr.length ∧ (swapRemove ka b).len ≤ ka.len ∧
    ∀ i : Nat, (∀ x, ka.live[i]? = some x → x.blob = b) → ∀ t, i < t → (swapRemove ka b).arr[t]? = ka.arr[t]? := by
  rcases swapRemove_cases ka b hwf with ⟨-, e⟩ | ⟨j, hlast, hj, hjl, e⟩ <;> rw [e]
  · exact ⟨hwf, rfl, Nat.le_refl _, fun _ _ _ _ => rfl⟩
  · obtain ⟨_, -, hmin⟩ := List.findIdx?_eq_some_iff_getElem.mp hj
    refine ⟨by unfold KeyArr.WF at hwf ⊢; simp; omega, List.length_set .., Nat.sub_le .., fun i hi t hit => ?_⟩
    have hji : j ≤ i := by
      refine Nat.le_of_not_lt fun hlt => ?_
      have hil : i < ka.live.length := by rw [ka.live_length hwf]; omega
      have := hmin i hlt
      simp [hi _ (List.getElem?_eq_getElem hil)] at this
    exact List.getElem?_set_ne (by omega)

theorem swapRemove_perm (ka : KeyArr) (b : Blob) (hwf : ka.WF) :
    (swapRemove ka b).live ~ ka.live.eraseP (·.blob = b) := by
  rw [List.eraseP_eq_eraseIdx]
  rcases swapRemove_cases ka b hwf with ⟨hj, e⟩ | ⟨j, hlast, hj, hjl, e⟩
  · rw [e, hj]
  · rw [e, hj]
    have hlen := ka.live_length hwf
    have : (⟨ka.arr.set j ka.arr[ka.len - 1], ka.len - 1⟩ : KeyArr).live = (ka.live.set j ka.arr[ka.len - 1]).dropLast := by
      rw [List.dropLast_eq_take, List.length_set, hlen]
      unfold KeyArr.live
      rw [← List.take_set, List.take_take, Nat.min_eq_left (Nat.sub_le _ _)]
    rw [this]
    refine swapAt_perm _ j _ (hlen ▸ hjl) ?_
    rw [List.getLast?_eq_getElem?, hlen, KeyArr.live_getElem?, if_pos (by omega), List.getElem?_eq_getElem hlast]

theorem mem_swapRemove (ka : KeyArr) (b : Blob) (hwf : ka.WF) (hd : Distinct ka.live) (x : Ident) :
    x ∈ (swapRemove ka b).live ↔ x ∈ ka.live ∧ x.blob ≠ b :=
  (swapRemove_perm ka b hwf).mem_iff.trans (mem_eraseP_blob hd b x)

theorem swapRemove_distinct (ka : KeyArr) (b : Blob) (hwf : ka.WF) (hd : Distinct ka.live) :
    Distinct (swapRemove ka b).live := by
  rw [distinct_iff_pairwise] at hd ⊢
  exact (swapRemove_perm ka b hwf).symm.pairwise (hd.eraseP _) (fun h => h.symm)

/-- what any call of the `remove` closure keeps true of the slice -/
structure Good (L0 : List Ident) (ka : KeyArr) : Prop where
  wf : ka.WF
  distinct : Distinct ka.live
  sub : ∀ x ∈ ka.live, x ∈ L0

theorem Good.swapRemove {L0 : List Ident} {ka : KeyArr} (h : Good L0 ka) (b : Blob) : Good L0 (swapRemove ka b) :=
  ⟨(swapRemove_shape ka b h.wf).1, swapRemove_distinct ka b h.wf h.distinct,
   fun x hx => h.sub x ((mem_swapRemove ka b h.wf h.distinct x).1 hx).1⟩

theorem Removes.good {f : Faults} {Q : Cert → Prop} {a r : State × KeyArr} {L0 : List Ident}
    (h : Removes f Q a r) (hg : Good L0 a.2) : Good L0 r.2 :=
  h.preserves (P := fun x => Good L0 x.2) hg fun x c _ hx => by
    rw [removeFn_eq]
    split
    · exact hx.swapRemove _
    · exact hx

/-- loop invariant of the in-agent pass at index `i`: `A` is the backing array and `n` the slice
    length at loop entry -/
structure LoopInv (A : List Ident) (n now i : Nat) (ka : KeyArr) : Prop where
  wf : ka.WF
  len : ka.arr.length = A.length
  le : ka.len ≤ n
  tail : ∀ j, i ≤ j → ka.arr[j]? = A[j]?
  distinct : Distinct ka.live
  /-- a certificate outside its window that is still in the slice sits at an original position the
      loop has not visited yet -/
  pending : ∀ x ∈ ka.live, ∀ c, x.blob = .cert c → validAt c now = false → ∃ p, i ≤ p ∧ p < n ∧ A[p]? = some x

theorem LoopInv.init (ka : KeyArr) (now : Nat) (hwf : ka.WF) (hd : Distinct ka.live) :
    LoopInv ka.arr ka.len now 0 ka := by
  refine ⟨hwf, rfl, Nat.le_refl _, fun _ _ => rfl, hd, fun x hx c _ _ => ?_⟩
  obtain ⟨p, hp⟩ := List.mem_iff_getElem?.mp hx
  rw [KeyArr.live_getElem?] at hp
  split at hp
  · rename_i hlt; exact ⟨p, Nat.zero_le _, hlt, hp⟩
  · cases hp

/-- the index advances once the entry at `A[i]` is no longer pending: it was in its window, or it
    has just been removed -/
theorem LoopInv.next {A : List Ident} {n now i : Nat} {ka ka' : KeyArr} (h : LoopInv A n now i ka)
    (hwf : ka'.WF) (hlen : ka'.arr.length = ka.arr.length) (hle : ka'.len ≤ ka.len)
    (harr : ∀ t, i < t → ka'.arr[t]? = ka.arr[t]?) (hd : Distinct ka'.live) (hsub : ∀ x ∈ ka'.live, x ∈ ka.live)
    (hi : ∀ x ∈ ka'.live, ∀ c, x.blob = .cert c → validAt c now = false → A[i]? ≠ some x) :
    LoopInv A n now (i + 1) ka' := by
  refine ⟨hwf, hlen.trans h.len, Nat.le_trans hle h.le, fun j hj => (harr j hj).trans (h.tail j (by omega)), hd, ?_⟩
  intro x hx c hxc hinv
  obtain ⟨p, hp, hpn, hAp⟩ := h.pending x (hsub x hx) c hxc hinv
  refine ⟨p, ?_, hpn, hAp⟩
  rcases Nat.lt_or_eq_of_le hp with hlt | rfl
  · exact hlt
  · exact absurd hAp (hi x hx c hxc hinv)

/-- the loop reads the original entry at `i` (`tail`); when that is no certificate outside its window,
    nothing is pending there -/
theorem LoopInv.skip {A : List Ident} {n now i : Nat} {ka : KeyArr} (h : LoopInv A n now i ka) {x : Ident}
    (hx : ka.arr[i]? = some x) (hv : ∀ c, x.blob = .cert c → validAt c now = true) :
    LoopInv A n now (i + 1) ka := by
  refine h.next h.wf rfl (Nat.le_refl _) (fun _ _ => rfl) h.distinct (fun _ h => h) ?_
  intro y _ c hyc hinval e
  rw [← h.tail i (Nat.le_refl _), hx] at e
  cases e
  rw [hv c hyc] at hinval
  cases hinval

/-- … and when it has been swap-removed, it is gone from the slice and no position behind `i` was written -/
theorem LoopInv.remove {A : List Ident} {n now i : Nat} {ka : KeyArr} (h : LoopInv A n now i ka) {x : Ident}
    (hx : ka.arr[i]? = some x) : LoopInv A n now (i + 1) (swapRemove ka x.blob) := by
  obtain ⟨hwf', hlen', hle', harr'⟩ := swapRemove_shape ka x.blob h.wf
  have hmem := mem_swapRemove ka x.blob h.wf h.distinct
  refine h.next hwf' hlen' hle' (harr' i ?_) (swapRemove_distinct ka _ h.wf h.distinct)
    (fun y hy => ((hmem y).1 hy).1) ?_
  · intro y hy
    rw [KeyArr.live_getElem?] at hy
    split at hy
    · rw [hx] at hy
      cases hy
      rfl
    · cases hy
  · intro y hy _ _ _ e
    rw [← h.tail i (Nat.le_refl _), hx] at e
    cases e
    exact ((hmem _).1 hy).2 rfl

theorem expiredInAgent_err_mono {now : Nat} {f : Faults} {fuel i : Nat} {s : State} {ka : KeyArr} {err : Bool}
    (h : err = true) : (expiredInAgent now f fuel i s ka err).2.2 = true := by
  fun_induction expiredInAgent now f fuel i s ka err with
  | case1 | case2 => exact h
  | case3 _ _ _ _ _ _ _ _ _ _ ih | case5 _ _ _ _ _ _ _ _ _ ih => exact ih h
  | case4 _ _ _ _ _ _ _ _ _ _ _ _ _ _ ih => exact ih (by rw [h, Bool.true_or])

theorem expiredInAgent_inv {A : List Ident} {n now : Nat} (f : Faults) (hn : n ≤ A.length) (fuel i : Nat) (s : State)
    (ka : KeyArr) (err : Bool) (hi : i + fuel = n) (hinv : LoopInv A n now i ka)
    (herr : (expiredInAgent now f fuel i s ka err).2.2 = false) :
    LoopInv A n now n (expiredInAgent now f fuel i s ka err).2.1 := by
  fun_induction expiredInAgent now f fuel i s ka err with
  | case1 => exact (show _ = n from hi) ▸ hinv
  | case2 fuel i s ka err hnone =>
    -- the loop stays inside the array: `i < n ≤ A.length`
    rw [hinv.tail i (Nat.le_refl _), List.getElem?_eq_none_iff] at hnone
    omega
  | case3 fuel i s ka err x hx c hb hv ih =>
    exact ih (by omega) (hinv.skip hx fun c' hc' => by rw [hb] at hc'; cases hc'; exact hv) herr
  | case5 fuel i s ka err x hx k hb ih =>
    exact ih (by omega) (hinv.skip hx fun c' hc' => by rw [hb] at hc'; cases hc') herr
  | case4 fuel i s ka err x hx c hb hv s' ka' ok hr ih =>
    rw [removeFn_eq] at hr
    cases hr
    cases hok : (removeCore s f (.cert c)).2 with
    | false =>
      -- a failed call raises the error flag for good
      rw [hok, expiredInAgent_err_mono (by simp)] at herr
      cases herr
    | true =>
      rw [hok] at ih herr
      exact ih (by omega) (hb ▸ hinv.remove hx) herr

/-- all certificates of the slice are inside their validity window -/
def AllValid (now : Nat) (l : List Ident) : Prop := ∀ x ∈ l, ∀ c, x.blob = .cert c → validAt c now = true

theorem LoopInv.final {A : List Ident} {n now : Nat} {ka : KeyArr} (h : LoopInv A n now n ka) :
    AllValid now ka.live := by
  intro x hx c hc
  cases hv : validAt c now with
  | true => rfl
  | false =>
    obtain ⟨p, hp1, hp2, _⟩ := h.pending x hx c hc hv
    omega

theorem expiredInAgent_allValid {now : Nat} {f : Faults} {s s' : State} {ka ka' : KeyArr} (hwf : ka.WF)
    (hd : Distinct ka.live) (h : expiredInAgent now f ka.len 0 s ka false = (s', ka', false)) :
    AllValid now ka'.live := by
  have hinv := expiredInAgent_inv f hwf ka.len 0 s ka false (Nat.zero_add _) (.init ka now hwf hd) (by rw [h])
  rw [h] at hinv
  exact hinv.final

end Ysshra.Shim

import Ysshra.Gen.SnapParam
/-
Pinned snapshot of Gen.SnapParam (see extract/snap.go): the regenerated statements of the source files
equal, declaration by declaration, what the hand-written models and harnesses were written against.
`by rfl` and not the term `rfl`: the tactic compares the two literals directly and is half as dear to check.
-/
namespace Ysshra.Bridge.SnapParam
open Ysshra

theorem csr_param_pinned : Gen.SnapParam.csr_param = ([
  (c!"type", [c!"ReqParam struct { NamespacePolicy common.NamespacePolicy HandlerName string ClientIP string LogName string ReqUser string ReqHost string TransID string SSHClientVersion version.Version SignatureAlgo x509.SignatureAlgorithm Attrs *message.Attributes }"]),
  (c!"NewReqParam func(envGetter func(string) string, osArgsGetter func() []string) (*ReqParam, error)", [c!"sshOriginalCommand := envGetter(\"SSH_ORIGINAL_COMMAND\")", c!"reqAttrs, err := message.Unmarshal(sshOriginalCommand)", c!"if err != nil { return nil, fmt.Errorf(\"failed to load attributes from SSH_ORIGINAL_COMMAND %q: %v\", sshOriginalCommand, err) }", c!"logName := envGetter(\"LOGNAME\")", c!"if logName == \"\" { return nil, fmt.Errorf(\"failed to load log name from LOGNAME %q\", logName) }", c!"sshConnection := envGetter(\"SSH_CONNECTION\")", c!"clientIP := strings.Split(sshConnection, \" \")[0]", c!"if net.ParseIP(clientIP) == nil { return nil, fmt.Errorf(\"failed to load client IP from SSH_CONNECTION %q\", sshConnection) }", c!"namespacePolicy, handlerName, err := parseForceCommand(osArgsGetter())", c!"if err != nil { return nil, err }", c!"sshClientVersion := version.NewDefaultVersion()", c!"if reqAttrs.SSHClientVersion != \"\" { sshClientVersion, err = version.Unmarshal(reqAttrs.SSHClientVersion) if err != nil { return nil, fmt.Errorf(`failed to unmarshal client version from SSHClientVersion=%q`, reqAttrs.SSHClientVersion) } }", c!"return &ReqParam{ NamespacePolicy: namespacePolicy, HandlerName: handlerName, ClientIP: clientIP, LogName: logName, ReqUser: reqAttrs.Username, ReqHost: reqAttrs.Hostname, TransID: transid.Generate(), SSHClientVersion: sshClientVersion, SignatureAlgo: x509.SignatureAlgorithm(reqAttrs.SignatureAlgo), Attrs: reqAttrs, }, nil"]),
  (c!"parseForceCommand func(osArgs []string) (common.NamespacePolicy, string, error)", [c!"var args []string", c!"for _, osArg := range osArgs { args = append(args, strings.Split(osArg, \" \")...) }", c!"l := len(args)", c!"if l < 3 { return \"\", \"\", fmt.Errorf(\"failed to get namespace policy and handler name from force command: %q\", strings.Join(args, \" \")) } else if l > 6 { return \"\", \"\", fmt.Errorf(\"length of the force command arguments exceeds the limitation: %q\", strings.Join(args, \" \")) }", c!"namespacePolicy := common.NamespacePolicy(args[l-2])", c!"if !common.ValidNamespacePolicy(namespacePolicy) { return \"\", \"\", fmt.Errorf(\"failed to validate namespace policy %q from force command: %q\", namespacePolicy, strings.Join(args, \" \")) }", c!"return namespacePolicy, args[l-1], nil"]),
  (c!"(*ReqParam).Validate func() error", [c!"if p == nil { return errors.New(\"nil request parameter\") }", c!"return nil"])
] : List (Str × List Str)) := by rfl

theorem sshutils_version_sshversion_pinned : Gen.SnapParam.sshutils_version_sshversion = ([
  (c!"const", [c!"base = 10", c!"bitSize = 16"]),
  (c!"var", [c!"versionRE = regexp.MustCompile(`^\\d+\\.\\d+$`)"]),
  (c!"type", [c!"Version struct { major, minor uint16 }"]),
  (c!"New func(major, minor uint16) Version", [c!"return Version{ major: major, minor: minor, }"]),
  (c!"NewDefaultVersion func() Version", [c!"return Version{major: 0, minor: 0}"]),
  (c!"(Version).Marshal func() string", [c!"return fmt.Sprintf(\"%d.%d\", v.major, v.minor)"]),
  (c!"Unmarshal func(s string) (Version, error)", [c!"if !versionRE.MatchString(s) { return NewDefaultVersion(), errors.New(`invalid format, expected \"major.minor\", e.g. \"8.0\"`) }", c!"i := strings.Index(s, \".\")", c!"major, err := strconv.ParseUint(s[:i], base, bitSize)", c!"if err != nil { return NewDefaultVersion(), err }", c!"minor, err := strconv.ParseUint(s[i+1:], base, bitSize)", c!"if err != nil { return NewDefaultVersion(), err }", c!"return New(uint16(major), uint16(minor)), nil"]),
  (c!"(Version).LessThan func(other Version) bool", [c!"return v.major < other.major || (v.major == other.major && v.minor < other.minor)"])
] : List (Str × List Str)) := by rfl

theorem csr_transid_transid_pinned : Gen.SnapParam.csr_transid_transid = ([
  (c!"Generate func() string", [c!"transID := make([]byte, 5)", c!"_, err := rand.Read(transID)", c!"if err != nil { return \"\" }", c!"return fmt.Sprintf(\"%x\", string(transID))"])
] : List (Str × List Str)) := by rfl

theorem common_nspolicy_pinned : Gen.SnapParam.common_nspolicy = ([
  (c!"type", [c!"NamespacePolicy string"]),
  (c!"const", [c!"NoNamespace NamespacePolicy = \"NONS\"", c!"NamespaceOK NamespacePolicy = \"NSOK\""]),
  (c!"var", [c!"namespacePolicies = map[NamespacePolicy]struct{}{ NoNamespace: {}, NamespaceOK: {}, }"]),
  (c!"ValidNamespacePolicy func(policy NamespacePolicy) bool", [c!"_, ok := namespacePolicies[policy]", c!"return ok"])
] : List (Str × List Str)) := by rfl

end Ysshra.Bridge.SnapParam

import Ysshra.Lemmas.Gensign
/-
What `AddCertsToAgent` (refresh, then adds) leaves in the agent, in particular when it succeeds.
-/
namespace Ysshra.Gensign
open Ysshra

theorem mem_removes_ok (a : Agent) (tr : Trace) (ids : List AIdent)
    (hok : (addCerts.removes a tr ids).2.2 = true) (x : AIdent) :
    x ∈ (addCerts.removes a tr ids).1.idents ↔
      x ∈ a.idents ∧ ∀ y ∈ ids, containsSub handlerName y.comment = true → ¬ (x.key = y.key ∧ x.cert = y.cert) := by
  induction ids generalizing a tr with
  | nil => exact ⟨fun h => ⟨h, fun _ hy => nomatch hy⟩, And.left⟩
  | cons id r ih =>
    unfold addCerts.removes at hok ⊢
    split at hok
    · rename_i hc
      rw [if_pos hc]
      split at hok
      · cases hok
      · rename_i a' heq
        have hrm := mem_agentRemove a id x
        rw [heq, imp_iff_right rfl] at hrm
        rw [ih _ _ hok, hrm, List.forall_mem_cons, imp_iff_right hc, and_assoc]
    · rename_i hc
      rw [if_neg hc, ih a tr hok, List.forall_mem_cons, and_iff_right fun h => absurd h hc]

theorem removes_ok_no_label {a a1 : Agent} {tr tr1 : Trace} (h : addCerts.removes a tr a.idents = (a1, tr1, true)) :
    ∀ x ∈ a1.idents, containsSub handlerName x.comment = false := by
  intro x hx
  have hm := mem_removes_ok a tr a.idents (by rw [h]) x
  rw [h] at hm
  obtain ⟨hxa, hclear⟩ := hm.1 hx
  cases hc : containsSub handlerName x.comment with
  | false => rfl
  | true => exact absurd ⟨rfl, rfl⟩ (hclear x hxa hc)

/-- an add of the same certificate writes the identical record, an add of another has another blob -/
theorem certRec_stays (k : Key) (lt : Nat) (c c' : CertV) (a : Agent) (h : certRec k lt c ∈ a.idents) :
    certRec k lt c ∈ (agentAdd a (certRec k lt c')).1.idents := by
  rw [mem_agentAdd]
  split
  · by_cases hcc : c = c'
    · exact .inl (hcc ▸ rfl)
    · exact .inr ⟨h, fun e => hcc (Option.some.inj e.2)⟩
  · exact h

theorem adds_stays (k : Key) (lt : Nat) (c : CertV) (a : Agent) (tr : Trace) (cs : List (Option CertV))
    (h : certRec k lt c ∈ a.idents) : certRec k lt c ∈ (addCerts.adds k lt a tr cs).1.idents :=
  adds_induct (fun a' _ _ => certRec k lt c ∈ a'.idents) k lt cs (fun _ _ => id)
    (fun a' _ c' _ _ => certRec_stays k lt c c' a') a tr h

theorem adds_ok_present (k : Key) (lt : Nat) (a : Agent) (tr : Trace) (cs : List (Option CertV))
    (hok : (addCerts.adds k lt a tr cs).2.2 = true) :
    ∀ c, some c ∈ cs → certRec k lt c ∈ (addCerts.adds k lt a tr cs).1.idents := by
  induction cs generalizing a tr with
  | nil =>
    intro c hc
    cases hc
  | cons c0 r ih =>
    intro c hc
    unfold addCerts.adds at hok ⊢
    cases c0 with
    | none => exact ih a tr hok c (by simpa using hc)
    | some c' =>
      dsimp only at hok ⊢
      split at hok
      · cases hok
      · rename_i hk
        rw [if_neg hk]
        have hadd := mem_agentAdd a ⟨k, some c', certLabel, lt⟩ (certRec k lt c')
        split at hok
        · cases hok
        · rename_i heq
          rw [heq] at hadd
          rcases List.mem_cons.1 hc with hc | hc
          · obtain rfl : c = c' := Option.some.inj hc
            exact adds_stays k lt c _ _ r (hadd.2 (.inl rfl))
          · exact ih _ _ hok c hc

theorem adds_new (k : Key) (lt : Nat) (a : Agent) (tr : Trace) (cs : List (Option CertV)) :
    ∀ y ∈ (addCerts.adds k lt a tr cs).1.idents, y ∈ a.idents ∨ ∃ c, some c ∈ cs ∧ y = certRec k lt c := by
  refine adds_induct (fun a' _ _ => ∀ y ∈ a'.idents, y ∈ a.idents ∨ ∃ c, some c ∈ cs ∧ y = certRec k lt c) k lt cs
    (fun _ _ => id) ?_ a tr fun _ => .inl
  intro a' _ c hc _ h y hy
  rw [mem_agentAdd] at hy
  split at hy
  · exact hy.elim (fun e => .inr ⟨c, hc, e⟩) fun hy => h y hy.1
  · exact h y hy

theorem addCerts_ok_shape (conf : Conf) (k : Key) (certs : List (Option CertV)) (w : World)
    (h : (addCerts conf k certs w).2.2 = true) :
    ∃ a a1 tr1, (addCerts.removes a [.agentList true] a.idents) = (a1, tr1, true) ∧
      (addCerts.adds k (lifetimeOf conf.validity) a1 tr1 certs).2.2 = true ∧
      (addCerts conf k certs w).1.agent = (addCerts.adds k (lifetimeOf conf.validity) a1 tr1 certs).1 := by
  unfold addCerts at h ⊢
  split at h
  · cases h
  · rename_i a ids hl
    obtain ⟨h1, h2⟩ := agentList_some hl
    obtain rfl : ids = a.idents := h1.trans h2.symm
    split at h
    · cases h
    · rename_i a1 tr1 hr
      exact ⟨a, a1, tr1, hr, h, rfl⟩

end Ysshra.Gensign

import Ysshra.Props.C03
/-
C04 — every fault ends in a typed error; never a silent success, never a crash.
The model has no crash outcome: a panic anywhere inside `Run` is the `panic` error kind
(`defer recover()`; `Bridge.Gensign` pins it in the source).
-/
namespace Ysshra
namespace C04
open Gensign

/-- the CA step: an error reply is a signer error, a panic a panic; a success returns the CA's
    certificates for exactly the requested key (or what it sent instead) -/
theorem signAll_err (k : Key) (n : Nat) (w : World) (e : ErrKind) (h : (signAll k n w).2.2 = .error e) :
    e = .signerSign ∨ e = .panic := by
  induction n generalizing w with
  | zero => cases h
  | succ m ih =>
    unfold signAll at h
    split at h
    · rename_i heq
      exact caSign_err k w e (by rw [heq]; exact h)
    · split at h
      · rename_i heq
        exact ih _ (by rw [heq]; exact h)
      · cases h

/-- Runs of the regular handler alone: the result kind is decided by the first step that fails,
    and success means every step succeeded. -/
theorem c04_regular (conf : Conf) (p : Param) (w : World) :
    (run conf p [.regular] w).2.2 =
      match (regularAuth conf p w).2.2 with
      | some _ => .err .allAuthFailed
      | none =>
        let w1 := (regularAuth conf p w).1
        match (regularGenerate conf p w1).2.2 with
        | .error e => .err e
        | .ok (k, _) =>
          let w2 := (regularGenerate conf p w1).1
          match (signAll k 1 w2).2.2 with
          | .error .panic => .err .panic
          | .error _ => .err .signerSign
          | .ok certs =>
            if (addCerts conf k certs (signAll k 1 w2).1).2.2 then .ok else .err .agentOpCert := by
  have hsel := selectHandler_regular conf p w
  cases hra : (regularAuth conf p w).2.2 <;> rw [hra] at hsel
  · obtain ⟨w', t, r, hf, hrun⟩ := run_of_selected hsel
    rw [hrun]
    cases hf with
    | generateFailed _ hg => simp only [hg]
    | signFailed _ _ e hg hsg => simp only [hg, hsg]; cases e <;> rfl
    | added _ _ _ hg hsg => simp only [hg, hsg]
  · rw [run_of_refused hsel]

/-- The regular handler's own failures carry one of its three error kinds. -/
theorem c04_generate_kinds (conf : Conf) (p : Param) (w : World) (e : ErrKind)
    (h : (regularGenerate conf p w).2.2 = .error e) : e = .handlerGenCSR ∨ e = .handlerConf := by
  rw [regularGenerate_eq] at h
  dsimp only at h
  split at h
  · split at h
    · exact .inr (Except.error.inj h).symm
    · cases h
  · exact .inl (Except.error.inj h).symm

theorem run_no_unsigned (conf : Conf) (p : Param) (hs : List Handler) (w : World) (k : Key) (c : CertV) (lt : Nat)
    (cm : Bytes) (ok : Bool) (h : Event.agentAdd k (some c) lt cm ok ∈ (run conf p hs w).2.1) :
    Event.caSign k true ∈ (run conf p hs w).2.1 := by
  -- neither the selection loop, the marker, `Generate` nor a CA call adds a certificate
  have no_sel : Event.agentAdd k (some c) lt cm ok ∉ (selectHandler conf p 0 hs w).2.1 := fun h => by
    cases (selectHandler_quiet conf p 0 hs w).issues _ h
  have no_gen : ∀ w1, Event.agentAdd k (some c) lt cm ok ∉ (regularGenerate conf p w1).2.1 := fun w1 h => by
    obtain ⟨_, he⟩ := C03.c03_private_key_add conf p w1 _ h
    cases he
  have no_ca : ∀ k' n w2, Event.agentAdd k (some c) lt cm ok ∉ (signAll k' n w2).2.1 := fun k' n w2 h => by
    obtain ⟨_, he⟩ := signAll_events k' n w2 _ h
    cases he
  rcases run_cases conf p hs w with ⟨e, _, hrun⟩ | ⟨i, hd, w', t, r, _, hf, hrun⟩ <;> rw [hrun] at h ⊢
  · exact absurd h no_sel
  · have ht : Event.agentAdd k (some c) lt cm ok ∈ t := by simpa [no_sel] using h
    suffices Event.caSign k true ∈ t by simp [this]
    cases hf with
    | generateFailed _ _ => exact absurd ht (no_gen _)
    | signFailed _ _ _ _ _ => exact ((List.mem_append.1 ht).elim (no_gen _) (no_ca _ _ _)).elim
    | added k0 _ certs _ hsg =>
      rcases List.mem_append.1 ht with ht | ht
      · exact ((List.mem_append.1 ht).elim (no_gen _) (no_ca _ _ _)).elim
      · -- one of the certificate adds: stored with `k0`, whose single CA call succeeded
        rcases C03.c03_cert_adds conf k0 certs _ _ ht with ⟨_, he⟩ | ⟨_, _, _, he⟩ | ⟨_, _, he⟩ <;> cases he
        exact List.mem_append_left _ (List.mem_append_right _ (signAll_ok_mem k 0 _ (by rw [hsg]; rfl)))
    | scripted _ _ _ _ => exact absurd ht (no_ca _ _ _)

/-- No certificate reaches the agent for a request the CA did not sign: in a run of the regular
    handler, an add request carrying a certificate is preceded by a successful CA call for the key
    it is stored with — and that certificate is one the CA returned in this run. -/
theorem c04_no_unsigned (conf : Conf) (p : Param) (w : World) (k : Key) (c : CertV) (lt : Nat) (cm : Bytes) (ok : Bool)
    (h : Event.agentAdd k (some c) lt cm ok ∈ (run conf p [.regular] w).2.1) :
    Event.caSign k true ∈ (run conf p [.regular] w).2.1 :=
  run_no_unsigned conf p [.regular] w k c lt cm ok h

/-- a step that failed: a CA call, an agent listing, removal or addition that did not succeed -/
def Event.failedStep : Event → Bool
  | .caSign _ false | .agentAdd _ _ _ _ false | .agentRemove _ _ false | .agentList false => true
  | _ => false

/-- When `Run` reports success no step of the run failed; the selection loop asks for signatures only,
    and a refused signature is a refusal of that handler, not a failed step. -/
theorem run_ok_no_failed_step (conf : Conf) (p : Param) (hs : List Handler) (w : World)
    (h : (run conf p hs w).2.2 = .ok) : ∀ e ∈ (run conf p hs w).2.1, Event.failedStep e = false := by
  -- a piece that succeeded contains no failed step: each request is recorded with its outcome
  have single : ∀ (ev : Bool → Event) (ok : Bool), Event.failedStep (ev true) = false → ok = true →
      ∀ e ∈ [ev ok], Event.failedStep e = false :=
    fun ev ok hev hok => List.forall_mem_singleton.2 (hok ▸ hev)
  refine run_stagewise (.eventsOfOk fun e => Event.failedStep e = false) conf p
    (fun _ _ _ => List.forall_mem_singleton.2 rfl) ?_ (fun _ _ _ => List.forall_mem_singleton.2 rfl) ?_ ?_ ?_
    hs w (decide_eq_true h)
  · intro w _
    rcases regularAuth_cases conf p w with h | ⟨pk, _, _, _, h⟩ <;> rw [h]
    · simp
    · exact List.forall_mem_singleton.2 rfl
  · intro w
    rw [regularGenerate_eq]
    dsimp only
    split
    · rename_i hadd
      exact fun _ => single (.agentAdd _ _ _ _) _ rfl hadd
    · intro hok
      cases hok
  · intro k w
    rw [caSign_trace]
    exact single (.caSign k) _ rfl
  · intro n certs w
    exact addCerts_stagewise (.eventsOfOk _) (single .agentList _ rfl)
      (fun _ _ _ _ => single (.agentRemove _ _) _ rfl) (fun _ _ _ _ => single (.agentAdd _ _ _ _) _ rfl)

/-- **No silent success, for every handler list.** When `Run` reports success, nothing after the
    selection of the handler failed: every CA call was answered, the listing, every removal and
    every addition succeeded. -/
theorem c04_success_every_step (conf : Conf) (p : Param) (hs : List Handler) (w : World)
    (h : (run conf p hs w).2.2 = .ok) :
    ∃ rest, (run conf p hs w).2.1 = (selectHandler conf p 0 hs w).2.1 ++ rest ∧
      ∀ e ∈ rest, Event.failedStep e = false := by
  obtain ⟨rest, htr, _⟩ := C01.run_trace_prefix conf p hs w
  exact ⟨rest, htr, fun e he => run_ok_no_failed_step conf p hs w h e (htr ▸ List.mem_append_right _ he)⟩

/-- The same read the other way round: a failed step after the selection is never followed by "ok". -/
theorem c04_failed_step_not_ok (conf : Conf) (p : Param) (hs : List Handler) (w : World) (rest : Trace) (e : Event)
    (htr : (run conf p hs w).2.1 = (selectHandler conf p 0 hs w).2.1 ++ rest) (he : e ∈ rest)
    (hf : Event.failedStep e = true) : (run conf p hs w).2.2 ≠ .ok := by
  intro hok
  rw [run_ok_no_failed_step conf p hs w hok e (htr ▸ List.mem_append_right _ he)] at hf
  cases hf

/-- Non-vacuity: a handler list whose first handler refuses and whose second is the regular one
    succeeds with an honest agent and a CA that signs; with a CA that fails it does not. -/
example :
    let conf : Conf := ⟨3600, [(0, c!"id")], ⟨.key (.registered 1), .absent⟩⟩
    let p : Param := ⟨true, false, c!"alice", c!"t", c!"i", c!"u", c!"h", 0⟩
    let ag : Agent := ⟨[⟨.registered 1, none, [], 0⟩], .honest, 0, none, none⟩
    (run conf p [.scripted .reject, .regular] ⟨ag, 7, [.certs 2 1], 0⟩).2.2 = .ok ∧
    (run conf p [.scripted .reject, .regular] ⟨ag, 7, [.err], 0⟩).2.2 = .err .signerSign ∧
    (run conf p [.scripted .reject, .scripted (.genKey 2 none false)] ⟨ag, 7, [.certs 1 1, .certs 1 1], 0⟩).2.2 = .ok := by
  decide

end C04
end Ysshra

import Ysshra.Model.Shim
/-
`Server.remove` without the case distinction on the blob (`removeCore_eq`); the closure `filter`
hands to its passes is that plus a swap-removal from the slice (`removeFn_eq`); each of the three
passes, and so `filter`, is a sequence of calls of the closure (`Removes`), so what one call
preserves they all preserve.
-/
namespace Ysshra.Shim
open Ysshra

namespace UAgent

theorem gate_cases (u : UAgent) (f : Faults) (k : Kind) :
    u.gate f k = (u, true) ∨ ∃ c, u.gate f k = ({ u with closed := c }, false) := by
  unfold gate
  split
  · exact .inr ⟨u.closed, rfl⟩
  · split
    · exact .inl rfl
    · exact .inr ⟨_, rfl⟩
    · exact .inr ⟨_, rfl⟩

theorem gate_noFaults (u : UAgent) (k : Kind) (h : u.closed = false) : u.gate noFaults k = (u, true) := by
  simp [gate, h, noFaults]

theorem list_noFaults (u : UAgent) (ho : u.closed = false) (hl : u.locked = false) :
    u.list noFaults = (u, some u.idents) := by
  simp [list, gate_noFaults u _ ho, hl]

/-- no case distinction: when the agent holds no entry for `b` the filter changes nothing -/
theorem remove_noFaults (u : UAgent) (b : Blob) (ho : u.closed = false) (hl : u.locked = false) :
    u.remove noFaults b = ({ u with idents := u.idents.filter (·.blob ≠ b) }, u.idents.any (·.blob = b)) := by
  obtain ⟨ids, _, _, _⟩ := u
  subst ho hl
  by_cases ha : ids.any (·.blob = b) = true
  · simp [remove, removeIdent, gate, noFaults, ha]
  · have hall : ids.filter (·.blob ≠ b) = ids :=
      List.filter_eq_self.2 fun x hx => by simpa using fun e => ha (List.any_eq_true.2 ⟨x, hx, by simpa using e⟩)
    simpa [remove, removeIdent, gate, noFaults, ha] using hall.symm

theorem unlock_noFaults (u : UAgent) (p : Bytes) (ho : u.closed = false) (hl : u.locked = true) :
    u.unlock noFaults p = if p = u.pass then ({ u with locked := false, pass := [] }, true) else (u, false) := by
  simp [unlock, gate_noFaults u _ ho, hl]

theorem sign_some {u : UAgent} {f : Faults} {b : Blob} {k : Nat} (h : (u.sign f b).2 = some k) :
    k = b.pub ∧ u.idents.any (·.blob = b) = true := by
  unfold sign at h
  rcases gate_cases u f .sign with hg | ⟨c, hg⟩ <;> rw [hg] at h
  · simp only [Bool.not_true, Bool.false_eq_true, ↓reduceIte] at h
    split at h
    · cases h
    · split at h
      · rename_i ha; exact ⟨(Option.some.inj h).symm, ha⟩
      · cases h
  · cases h

theorem lock_ok (u : UAgent) (f : Faults) (p : Bytes) (h : (u.lock f p).2 = true) :
    (u.lock f p).1 = { u with locked := true, pass := p } := by
  unfold lock at h ⊢
  rcases gate_cases u f .lock with hg | ⟨c, hg⟩ <;> rw [hg] at h ⊢
  · simp only [Bool.not_true, Bool.false_eq_true, ↓reduceIte] at h ⊢
    split at h
    · cases h
    · rename_i hl; simp [hl]
  · cases h

end UAgent

theorem signOut_ok {s : State} {f : Faults} {b : Blob} {k : Nat} (h : (signOut s f b).2 = .signed (.ok k)) :
    k = b.pub ∧ s.u.idents.any (·.blob = b) = true := by
  unfold signOut at h
  split at h
  · rename_i hs; cases h; exact UAgent.sign_some (by rw [hs])
  · cases h

theorem mem_of_any_blob (l : List Ident) (b : Blob) (h : l.any (·.blob = b) = true) : ∃ x ∈ l, x.blob = b := by
  simp only [List.any_eq_true, decide_eq_true_eq] at h
  exact h

theorem hasCert_iff {s : State} {c : Cert} : hasCert s c = true ↔ ∃ mc ∈ s.certs, mc.cert = c := by
  simp only [hasCert, List.any_eq_true, decide_eq_true_eq]

theorem any_blob_cert (s : State) (c : Cert) : s.certs.any (Blob.cert ·.cert = .cert c) = hasCert s c := by
  simp [hasCert]

theorem dropCache_eq (s : State) (b : Blob) :
    dropCache s b = { s with cache := if s.noUp then s.cache.filter (Blob.cert · ≠ b) else s.cache } := by
  obtain ⟨certs, cache, locked, noUp, u⟩ := s
  cases noUp
  · rfl
  · cases b with
    | key k => simp [dropCache, List.filter_eq_self.2]
    | cert c => simp [dropCache]

@[simp] theorem dropCache_certs (s : State) (b : Blob) : (dropCache s b).certs = s.certs := by rw [dropCache_eq]
@[simp] theorem dropCache_locked (s : State) (b : Blob) : (dropCache s b).locked = s.locked := by rw [dropCache_eq]
@[simp] theorem dropCache_noUp (s : State) (b : Blob) : (dropCache s b).noUp = s.noUp := by rw [dropCache_eq]
@[simp] theorem dropCache_u (s : State) (b : Blob) : (dropCache s b).u = s.u := by rw [dropCache_eq]
theorem dropCache_cache_off (s : State) (b : Blob) (h : s.noUp = false) : (dropCache s b).cache = s.cache := by
  rw [dropCache_eq, h]
  rfl
theorem dropCache_cache_sub (s : State) (b : Blob) : ∀ c ∈ (dropCache s b).cache, c ∈ s.cache := by
  rw [dropCache_eq]
  split
  · exact fun c hc => (List.mem_filter.1 hc).1
  · exact fun _ h => h

/-- the request goes to the underlying agent whatever `b` is; a plain key is in no table entry -/
theorem removeCore_eq (s : State) (f : Faults) (b : Blob) :
    removeCore s f b =
      if (s.u.remove f b).2 || s.certs.any (Blob.cert ·.cert = b) then
        (dropCache { s with certs := s.certs.filter (Blob.cert ·.cert ≠ b), u := (s.u.remove f b).1 } b, true)
      else ({ s with u := (s.u.remove f b).1 }, false) := by
  unfold removeCore
  cases b with
  | key k => rcases h : s.u.remove f (.key k) with ⟨u', _ | _⟩ <;> simp [h, List.filter_eq_self.2]
  | cert c => rcases h : s.u.remove f (.cert c) with ⟨u', _ | _⟩ <;> simp [h, hasCert]

theorem removeCore_u (s : State) (f : Faults) (b : Blob) : (removeCore s f b).1.u = (s.u.remove f b).1 := by
  rw [removeCore_eq]; split <;> simp

theorem removeCore_ok (s : State) (f : Faults) (b : Blob) :
    (removeCore s f b).2 = ((s.u.remove f b).2 || s.certs.any (Blob.cert ·.cert = b)) := by
  rw [removeCore_eq]
  cases (s.u.remove f b).2 || s.certs.any (Blob.cert ·.cert = b) <;> rfl

/-- also when the call fails: then the table held no entry for `b` -/
theorem removeCore_certs (s : State) (f : Faults) (b : Blob) :
    (removeCore s f b).1.certs = s.certs.filter (Blob.cert ·.cert ≠ b) := by
  rw [removeCore_eq]
  split
  · simp
  · rename_i h
    simp only [Bool.or_eq_true, not_or, List.any_eq_true] at h
    exact (List.filter_eq_self.2 fun mc hmc => by simpa using fun e => h.2 ⟨mc, hmc, e⟩).symm

theorem mem_removeCore_certs (s : State) (f : Faults) (b : Blob) (mc : MemCert) :
    mc ∈ (removeCore s f b).1.certs ↔ mc ∈ s.certs ∧ Blob.cert mc.cert ≠ b := by
  simp [removeCore_certs]

/-- `s'` differs from `s` only by having lost certificates / cache entries (and in the
    underlying agent) -/
structure Shrinks (s s' : State) : Prop where
  noUp : s'.noUp = s.noUp
  locked : s'.locked = s.locked
  cache : ∀ c ∈ s'.cache, c ∈ s.cache
  certs : ∀ mc ∈ s'.certs, mc ∈ s.certs

theorem Shrinks.refl (s : State) : Shrinks s s := ⟨rfl, rfl, fun _ h => h, fun _ h => h⟩

theorem Shrinks.with_u (s : State) (u' : UAgent) : Shrinks s { s with u := u' } :=
  ⟨rfl, rfl, fun _ h => h, fun _ h => h⟩

theorem Shrinks.trans {a b c : State} (h1 : Shrinks a b) (h2 : Shrinks b c) : Shrinks a c :=
  ⟨h2.noUp.trans h1.noUp, h2.locked.trans h1.locked, fun x hx => h1.cache x (h2.cache x hx),
   fun x hx => h1.certs x (h2.certs x hx)⟩

theorem removeCore_shrinks (s : State) (f : Faults) (b : Blob) : Shrinks s (removeCore s f b).1 := by
  rw [removeCore_eq]
  split
  · refine ⟨dropCache_noUp .., dropCache_locked .., dropCache_cache_sub _ _, fun mc h => ?_⟩
    rw [dropCache_certs] at h
    exact (List.mem_filter.1 h).1
  · exact .with_u ..

/-- the current slice -/
def KeyArr.live (ka : KeyArr) : List Ident := ka.arr.take ka.len

@[simp] theorem KeyArr.live_full (l : List Ident) : (⟨l, l.length⟩ : KeyArr).live = l := List.take_length

/-- what a successful `remove` does to the slice -/
def swapRemove (ka : KeyArr) (b : Blob) : KeyArr :=
  match ka.live.findIdx? (·.blob = b) with
  | none => ka
  | some j =>
    match ka.arr[ka.len - 1]? with
    | none => ka
    | some last => ⟨ka.arr.set j last, ka.len - 1⟩

theorem removeFn_eq (s : State) (f : Faults) (ka : KeyArr) (b : Blob) :
    removeFn s f ka b =
      ((removeCore s f b).1, if (removeCore s f b).2 then swapRemove ka b else ka, (removeCore s f b).2) := by
  unfold removeFn swapRemove KeyArr.live
  rcases removeCore s f b with ⟨s', _ | _⟩
  · rfl
  · simp only [↓reduceIte]
    cases List.findIdx? (fun x => decide (x.blob = b)) (List.take ka.len ka.arr) with
    | none => rfl
    | some j => cases ka.arr[ka.len - 1]? <;> rfl

theorem removeFn_state (s : State) (f : Faults) (ka : KeyArr) (b : Blob) :
    (removeFn s f ka b).1 = (removeCore s f b).1 := by rw [removeFn_eq]

theorem removeFn_ok (s : State) (f : Faults) (ka : KeyArr) (b : Blob) :
    (removeFn s f ka b).2.2 = (removeCore s f b).2 := by rw [removeFn_eq]

/-- `r` comes from `a` by calls of the closure, each for a certificate in `Q` -/
inductive Removes (f : Faults) (Q : Cert → Prop) : State × KeyArr → State × KeyArr → Prop
  | refl (a) : Removes f Q a a
  | step {a c r} : Q c →
      Removes f Q ((removeFn a.1 f a.2 (.cert c)).1, (removeFn a.1 f a.2 (.cert c)).2.1) r → Removes f Q a r

namespace Removes
variable {f : Faults} {Q : Cert → Prop} {a b r : State × KeyArr}

theorem trans (h1 : Removes f Q a b) (h2 : Removes f Q b r) : Removes f Q a r := by
  induction h1 with
  | refl => exact h2
  | step hq _ ih => exact .step hq (ih h2)

theorem mono {Q' : Cert → Prop} (hQ : ∀ c, Q c → Q' c) (h : Removes f Q a r) : Removes f Q' a r := by
  induction h with
  | refl => exact .refl _
  | step hq _ ih => exact .step (hQ _ hq) ih

theorem foldl {α} (g : State × KeyArr → α → State × KeyArr) (l : List α)
    (hg : ∀ a, ∀ x ∈ l, Removes f Q a (g a x)) (a : State × KeyArr) : Removes f Q a (l.foldl g a) := by
  induction l generalizing a with
  | nil => exact .refl _
  | cons x r ih =>
    exact (hg a x (List.mem_cons_self ..)).trans (ih (fun a y hy => hg a y (List.mem_cons_of_mem _ hy)) _)

theorem preserves {P : State × KeyArr → Prop} (h : Removes f Q a r) (ha : P a)
    (hstep : ∀ a c, Q c → P a → P ((removeFn a.1 f a.2 (.cert c)).1, (removeFn a.1 f a.2 (.cert c)).2.1)) :
    P r := by
  induction h with
  | refl => exact ha
  | step hc _ ih => exact ih (hstep _ _ hc ha)

theorem shrinks (h : Removes f Q a r) : Shrinks a.1 r.1 :=
  h.preserves (P := fun x => Shrinks a.1 x.1) (.refl _) fun x _ _ hx => by
    rw [removeFn_state]
    exact hx.trans (removeCore_shrinks x.1 f _)

theorem keeps (h : Removes f Q a r) (mc : MemCert) (hm : mc ∈ a.1.certs) (hq : ¬ Q mc.cert) : mc ∈ r.1.certs :=
  h.preserves (P := fun x => mc ∈ x.1.certs) hm fun x c hc hx => by
    rw [removeFn_state, mem_removeCore_certs]
    exact ⟨hx, fun e => hq (Blob.cert.inj e ▸ hc)⟩

end Removes

/-- the loop both in-memory passes are -/
def sweep (f : Faults) (keep : Cert → Bool) (a : State × KeyArr) (l : List MemCert) : State × KeyArr :=
  l.foldl (fun acc mc =>
    if keep mc.cert then acc else let (s', ka', _) := removeFn acc.1 f acc.2 (.cert mc.cert); (s', ka')) a

theorem filterOrphans_eq (s : State) (f : Faults) (ka : KeyArr) :
    filterOrphans s f ka = if ka.live.isEmpty then (s, ka)
      else sweep f ((ka.live.map (·.blob.pub)).contains ·.key) (s, ka) s.certs := rfl

theorem sweep_removes (f : Faults) (keep : Cert → Bool) (a : State × KeyArr) (l : List MemCert) :
    Removes f (keep · = false) a (sweep f keep a l) := by
  refine Removes.foldl _ l (fun a mc _ => ?_) a
  -- the call's result is named first: with the `let (s', ka', _) := removeFn …` left in the goal, the
  -- comparison behind `.refl` unfolds `removeFn`
  rcases hr : removeFn a.1 f a.2 (.cert mc.cert) with ⟨s', ka', ok⟩
  split
  · exact .refl _
  · rename_i h; exact .step (Bool.eq_false_iff.2 h) (by rw [hr]; exact .refl _)

theorem filterOrphans_removes (s : State) (f : Faults) (ka : KeyArr) :
    Removes f (fun c => ka.live ≠ [] ∧ c.key ∉ ka.live.map (·.blob.pub)) (s, ka) (filterOrphans s f ka) := by
  rw [filterOrphans_eq]
  split
  · exact .refl _
  · rename_i hne
    refine (sweep_removes ..).mono fun c hc => ⟨by simpa using hne, ?_⟩
    simpa only [List.contains_eq_mem, decide_eq_false_iff_not] using hc

theorem expiredInMemory_removes (now : Nat) (f : Faults) (s : State) (ka : KeyArr) :
    Removes f (validAt · now = false) (s, ka) (expiredInMemory now f s ka) :=
  sweep_removes f (validAt · now) (s, ka) s.certs

/-- the table loses the entry whatever the call returns (`removeCore_certs`) -/
theorem sweep_complete (f : Faults) (keep : Cert → Bool) (l : List MemCert) (a : State × KeyArr)
    (h : ∀ mc ∈ a.1.certs, keep mc.cert = true ∨ mc ∈ l) :
    ∀ mc ∈ (sweep f keep a l).1.certs, keep mc.cert = true := by
  induction l generalizing a with
  | nil => exact fun mc hmc => (h mc hmc).resolve_right (by simp)
  | cons x r ih =>
    refine ih _ fun mc hmc => ?_
    -- an entry that is left was there before, and if it is `x` then `x` was kept
    have hmc' : mc ∈ a.1.certs ∧ (mc = x → keep x.cert = true) := by
      by_cases hk : keep x.cert = true
      · simp only [hk] at hmc
        exact ⟨hmc, fun _ => hk⟩
      · simp only [hk, Bool.false_eq_true, ↓reduceIte, removeFn_state, mem_removeCore_certs] at hmc
        exact ⟨hmc.1, fun e => absurd (e ▸ rfl) hmc.2⟩
    rcases h mc hmc'.1 with h | h
    · exact .inl h
    · rcases List.mem_cons.1 h with rfl | h
      · exact .inl (hmc'.2 rfl)
      · exact .inr h

theorem expiredInMemory_complete (now : Nat) (f : Faults) (s : State) (ka : KeyArr) :
    ∀ mc ∈ (expiredInMemory now f s ka).1.certs, validAt mc.cert now = true :=
  sweep_complete f (validAt · now) s.certs (s, ka) fun _ h => .inr h

theorem filterOrphans_complete (s : State) (f : Faults) (ka : KeyArr) (hne : ka.live ≠ []) :
    ∀ mc ∈ (filterOrphans s f ka).1.certs, mc.cert.key ∈ ka.live.map (·.blob.pub) := by
  intro mc hmc
  rw [filterOrphans_eq, if_neg (by simpa using hne)] at hmc
  -- `keep` is left to unification with `hmc`: written out here, the application is slow to check
  exact List.contains_iff_mem.1 (sweep_complete f _ s.certs (s, ka) (fun _ h => .inr h) mc hmc)

/- The loop proofs go along `expiredInAgent.induct`, whose cases are: out of fuel; past the end of the
   array; a certificate in its window; a certificate outside it, handed to the closure; a plain key. -/
theorem expiredInAgent_removes (now : Nat) (f : Faults) (fuel i : Nat) (s : State) (ka : KeyArr) (err : Bool) :
    Removes f (validAt · now = false) (s, ka)
      ((expiredInAgent now f fuel i s ka err).1, (expiredInAgent now f fuel i s ka err).2.1) := by
  fun_induction expiredInAgent now f fuel i s ka err with
  | case1 | case2 => exact .refl _
  | case3 | case5 => assumption
  | case4 fuel i s ka err x hx c hb hv s' ka' ok hr ih =>
    refine .step (c := c) (by simpa using hv) ?_
    rw [hr]
    exact ih

theorem filter_none (s : State) (now : Nat) (f : Faults) {u1 : UAgent} (hl : s.u.list f = (u1, none)) :
    filter s now f = ({ s with u := u1 }, none) := by
  unfold filter; rw [hl]

theorem filter_spec (s : State) (now : Nat) (f : Faults) {u1 : UAgent} {keys : List Ident}
    (hl : s.u.list f = (u1, some keys)) :
    ∃ s1 ka1 s2 ka2 err s3 ka3,
      filterOrphans { s with u := u1 } f ⟨keys, keys.length⟩ = (s1, ka1) ∧
      expiredInAgent now f ka1.len 0 s1 ka1 false = (s2, ka2, err) ∧
      expiredInMemory now f s2 ka2 = (s3, ka3) ∧
      filter s now f = (s3, if err then none else some ka3.live) ∧
      Removes f (fun c => keys ≠ [] ∧ c.key ∉ keys.map (·.blob.pub))
        ({ s with u := u1 }, ⟨keys, keys.length⟩) (s1, ka1) ∧
      Removes f (validAt · now = false) (s1, ka1) (s2, ka2) ∧
      Removes f (validAt · now = false) (s2, ka2) (s3, ka3) := by
  rcases h1 : filterOrphans { s with u := u1 } f ⟨keys, keys.length⟩ with ⟨s1, ka1⟩
  rcases h2 : expiredInAgent now f ka1.len 0 s1 ka1 false with ⟨s2, ka2, err⟩
  rcases h3 : expiredInMemory now f s2 ka2 with ⟨s3, ka3⟩
  have r1 := filterOrphans_removes { s with u := u1 } f ⟨keys, keys.length⟩
  have r2 := expiredInAgent_removes now f ka1.len 0 s1 ka1 false
  have r3 := expiredInMemory_removes now f s2 ka2
  rw [h1, KeyArr.live_full] at r1
  rw [h2] at r2
  rw [h3] at r3
  refine ⟨s1, ka1, s2, ka2, err, s3, ka3, rfl, h2, h3, ?_, r1, r2, r3⟩
  simp only [filter, hl, h1, h2, h3]
  cases err <;> rfl

theorem filter_removes (s : State) (now : Nat) (f : Faults) {u1 : UAgent} {keys : List Ident}
    (hl : s.u.list f = (u1, some keys)) :
    ∃ ka, Removes f (fun c => validAt c now = false ∨ keys ≠ [] ∧ c.key ∉ keys.map (·.blob.pub))
      ({ s with u := u1 }, ⟨keys, keys.length⟩) ((filter s now f).1, ka) ∧
      ∀ ks, (filter s now f).2 = some ks → ks = ka.live := by
  obtain ⟨s1, ka1, s2, ka2, err, s3, ka3, -, -, -, h4, r1, r2, r3⟩ := filter_spec s now f hl
  rw [h4]
  refine ⟨ka3, (r1.mono fun _ => .inr).trans ((r2.trans r3).mono fun _ => .inl), fun ks hks => ?_⟩
  cases err with
  | true => cases hks
  | false => exact (Option.some.inj hks).symm

theorem filter_shrinks (s : State) (now : Nat) (f : Faults) : Shrinks s (filter s now f).1 := by
  rcases hl : s.u.list f with ⟨u1, _ | keys⟩
  · rw [filter_none s now f hl]
    exact .with_u ..
  · obtain ⟨ka, h, -⟩ := filter_removes s now f hl
    exact (Shrinks.with_u s u1).trans h.shrinks

theorem step_remove (s : State) (now : Nat) (f : Faults) (b : Blob) (hl : s.locked = false) :
    step s now f (.remove b) = ((removeCore s f b).1, if (removeCore s f b).2 then .ok else .err) := by
  simp only [step, hl, Bool.false_eq_true, ↓reduceIte]
  rcases removeCore s f b with ⟨s', _ | _⟩ <;> rfl

theorem step_sign_cert (s : State) (now : Nat) (f : Faults) (c : Cert) (hl : s.locked = false)
    {keys : List Ident} (hf : (filter s now f).2 = some keys) :
    step s now f (.sign (.cert c)) =
      if hasCert (filter s now f).1 c then signOut (filter s now f).1 f (.key c.key)
      else if c.ysshca && (filter s now f).1.noUp then ((filter s now f).1, .signed .notFound)
      else signOut (filter s now f).1 f (.cert c) := by
  simp only [step, hl, Bool.false_eq_true, ↓reduceIte]
  revert hf
  rcases filter s now f with ⟨s', _ | _⟩
  · exact fun hf => by cases hf
  · exact fun _ => rfl

end Ysshra.Shim

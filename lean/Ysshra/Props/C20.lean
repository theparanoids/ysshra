import Ysshra.Lemmas.Cond
/-
C20 — waiting on a message code wakes on the next request with that code, only then.
The theorems hold for every table size `n`.  (`Bridge.Wire` proves that the size and guard regenerated
from shimserver.go are 40 and `<`, that ServeAgent broadcasts `req[0]` before dispatch and that the
wait code is 35.)
-/
namespace Ysshra
namespace C20
open Cond

/-- every code that passes the guard indexes inside a table of `n ≤ 256` entries -/
theorem c20_in_range (n : Nat) (hn : n ≤ 256) (c : UInt8) (h : inRange n c = true) : c.toNat < n :=
  inRange_lt h

/-- A broadcast of `c` releases exactly the clients waiting on `c`, all of them together, and
    leaves every other code's waiters registered. -/
theorem c20_release (n : Nat) (s : State) (c : UInt8) (h : inRange n c = true) :
    (∀ t, t ∈ (broadcast n s c).2 ↔ (t, c) ∈ s) ∧
    (∀ w, w ∈ (broadcast n s c).1 ↔ (w ∈ s ∧ w.2 ≠ c)) :=
  ⟨fun t => by simp [mem_broadcast_snd, h], fun w => by simp [mem_broadcast_fst, h]⟩

/-- A request (of any kind) whose first byte is not `c` leaves a waiter on `c` registered. -/
theorem c20_other_code_keeps (n : Nat) (s : State) (c : UInt8) (t : Tid) (e : Event)
    (hd : e.code ≠ c) (hm : (t, c) ∈ s) : (t, c) ∈ (step n s e).1 :=
  mem_step_fst.2 (.inl (mem_broadcast_fst.2 ⟨hm, fun h => hd h.2.symm⟩))

/-- … and does not release it: the clients an event releases are those registered on the event's
    own first byte (plus, for a wait on an unsupported code, the caller itself). -/
theorem c20_released_only_matching (n : Nat) (s : State) (e : Event) (t : Tid)
    (h : t ∈ (step n s e).2) :
    (t, e.code) ∈ s ∨ (∃ c, e = .wait t c ∧ inRange n c = false) :=
  (mem_step_snd.1 h).imp_left fun h => (mem_broadcast_snd.1 h).2

/-- A code outside the supported range returns immediately and changes nothing beyond the
    broadcast every request performs; a request with such a code wakes nobody. -/
theorem c20_out_of_range (n : Nat) (s : State) (t : Tid) (c : UInt8) (h : inRange n c = false) :
    (step n s (.wait t c)).1 = (broadcast n s waitCode).1 ∧ t ∈ (step n s (.wait t c)).2 ∧
    step n s (.request c) = (s, []) := by
  refine ⟨?_, ?_, ?_⟩
  · simp [step, h, Event.code]
  · exact mem_step_snd.2 (.inr ⟨c, rfl, h⟩)
  · simp [step, broadcast, h, Event.code]

/-- A supported wait registers the client. -/
theorem c20_wait_registers (n : Nat) (s : State) (t : Tid) (c : UInt8) (h : inRange n c = true) :
    (t, c) ∈ (step n s (.wait t c)).1 :=
  mem_step_fst.2 (.inr ⟨rfl, h⟩)

/-- History form: a client registered on `c` stays blocked through any sequence of requests none
    of which has first byte `c`, and the next request with first byte `c` releases it. -/
theorem c20_next_request (n : Nat) (s : State) (t : Tid) (c : UInt8) (es : List Event) (e : Event)
    (hg : inRange n c = true) (hm : (t, c) ∈ s) (hno : ∀ e' ∈ es, e'.code ≠ c) (he : e.code = c) :
    (t, c) ∈ (run n s es).1 ∧ t ∈ (step n (run n s es).1 e).2 := by
  induction es generalizing s with
  | nil => exact ⟨hm, mem_step_snd.2 (.inl (mem_broadcast_snd.2 (he ▸ ⟨hg, hm⟩)))⟩
  | cons e0 es ih =>
    have := ih (step n s e0).1 (c20_other_code_keeps n s c t e0 (hno e0 (List.mem_cons_self ..)) hm)
      (fun e' he' => hno e' (List.mem_cons_of_mem _ he'))
    simpa [run] using this

/-- Non-vacuity: two waiters on 11, one on 13; a request 11 frees the first two only. -/
example : step 40 [(1, 11), (2, 13), (3, 11)] (.request 11) = ([(2, 13)], [1, 3]) := by decide
/-- a wait request is itself a request with code 35 -/
example : step 40 [(1, 35)] (.wait 2 13) = ([(2, 13)], [1]) := by decide

/-! When several requests arrive back to back (on different connections, in any order), no wake-up
is lost because another code followed at once. -/

/-- process a burst of (non-wait) requests; the released clients accumulated -/
def burst (n : Nat) (s : State) (cs : List UInt8) : State × List Tid :=
  cs.foldl (fun acc c => let r := broadcast n acc.1 c; (r.1, acc.2 ++ r.2)) (s, [])

/-- the fold behind `burst`, from any accumulated state -/
theorem burst_spec (n : Nat) (cs : List UInt8) (s : State) (rel0 : List Tid) :
    (cs.foldl (fun acc c => let r := broadcast n acc.1 c; (r.1, acc.2 ++ r.2)) (s, rel0)).1 =
      s.filter (fun w => !(inRange n w.2 && cs.contains w.2)) ∧
    ∀ t, t ∈ (cs.foldl (fun acc c => let r := broadcast n acc.1 c; (r.1, acc.2 ++ r.2)) (s, rel0)).2 ↔
      t ∈ rel0 ∨ ∃ w ∈ s, w.1 = t ∧ inRange n w.2 = true ∧ w.2 ∈ cs := by
  induction cs generalizing s rel0 with
  | nil => simp [List.filter_eq_self.2]
  | cons c r ih =>
    obtain ⟨ih1, ih2⟩ := ih (broadcast n s c).1 (rel0 ++ (broadcast n s c).2)
    simp only [List.foldl_cons]
    refine ⟨?_, fun t => ?_⟩
    · rw [ih1, broadcast_fst, List.filter_filter]
      apply List.filter_congr
      intro w _
      rw [List.contains_cons]
      cases inRange n w.2 <;> cases w.2 == c <;> simp
    · -- a waiter on a code of `c :: r` is released by `c` now or survives it and is released later
      simp only [ih2, List.mem_append, mem_broadcast_snd, mem_broadcast_fst, List.mem_cons, or_assoc]
      refine or_congr_right ⟨?_, ?_⟩
      · rintro (⟨hc, hm⟩ | ⟨w, ⟨hw, _⟩, rfl, hr, hm⟩)
        · exact ⟨_, hm, rfl, hc, .inl rfl⟩
        · exact ⟨w, hw, rfl, hr, .inr hm⟩
      · rintro ⟨w, hw, rfl, hr, hm⟩
        by_cases hwc : w.2 = c
        · exact .inl ⟨hwc ▸ hr, hwc ▸ hw⟩
        · exact .inr ⟨w, ⟨hw, fun h => hwc h.2⟩, rfl, hr, hm.resolve_left hwc⟩

/-- **Bursts.** After a burst of requests with codes `cs`, the clients released are exactly those
    that were waiting on an in-range code occurring in `cs`, and exactly those stop waiting. -/
theorem c20_burst (n : Nat) (s : State) (cs : List UInt8) :
    (burst n s cs).1 = s.filter (fun w => !(inRange n w.2 && cs.contains w.2)) ∧
    ∀ t, t ∈ (burst n s cs).2 ↔ ∃ w ∈ s, w.1 = t ∧ inRange n w.2 = true ∧ w.2 ∈ cs := by
  obtain ⟨h1, h2⟩ := burst_spec n cs s []
  exact ⟨h1, fun t => by rw [burst, h2 t, List.mem_nil_iff, false_or]⟩

/-- … so the order in which the server processes the requests of a burst does not matter. -/
theorem c20_burst_order (n : Nat) (s : State) (cs cs' : List UInt8) (hp : ∀ c, c ∈ cs ↔ c ∈ cs') :
    (burst n s cs).1 = (burst n s cs').1 ∧ ∀ t, t ∈ (burst n s cs).2 ↔ t ∈ (burst n s cs').2 := by
  obtain ⟨a1, a2⟩ := c20_burst n s cs
  obtain ⟨b1, b2⟩ := c20_burst n s cs'
  -- both descriptions mention the codes only through membership
  exact ⟨by simp only [a1, b1, List.contains_eq_mem, hp], fun t => by simp only [a2, b2, hp]⟩

example : (burst 40 [(1, 11), (2, 13), (3, 11), (4, 200)] [11, 13]).2 = [1, 3, 2] ∧
    (burst 40 [(1, 11), (2, 13), (3, 11), (4, 200)] [13, 11]).2 = [2, 1, 3] := by decide

end C20
end Ysshra

import Ysshra.Lemmas.Serve
/-
C12 — the agent server survives any byte stream and answers each request once.
The model has no crash outcome: every index into a request is guarded (`Bridge.Wire` pins the
guards in server.go), a panic of the forwarded standard server is an error ending (`std = none`).
-/
namespace Ysshra
namespace C12
open Wire Serve

/-- Frames of length 0, and wait frames without a code byte, end the connection with an error
    instead of indexing out of range — for every message code. -/
theorem c12_short_frames (env : Env) (i : Nat) :
    handle env i [] = .fail ∧ handle env i [35] = .fail :=
  ⟨rfl, rfl⟩

/-- No request buffer larger than 16 MiB is ever allocated, for any byte stream. -/
theorem c12_alloc (env : Env) (fuel i : Nat) (bs : Bytes) :
    ∀ a ∈ (serve env fuel i bs).allocs, a ≤ maxAgentResponseBytes := by
  induction fuel generalizing i bs with
  | zero => simp [serve]
  | succ f ih =>
    rw [serve]
    split
    · simp
    · simp
    · simp
    · rename_i req rest alloc hr
      have hal := readFrame_alloc hr
      have ih := ih (i + 1) rest
      -- `alloc` is recorded whatever becomes of the request; the rest is the loop's
      split
      · exact List.forall_mem_singleton.2 hal
      · split
        · exact List.forall_mem_singleton.2 hal
        · exact List.forall_mem_cons.2 ⟨hal, ih⟩
      · split <;> exact List.forall_mem_cons.2 ⟨hal, ih⟩

/-- a declared length above the bound is refused before anything is allocated or answered -/
theorem c12_too_large (env : Env) (fuel i : Nat) (bs : Bytes) (d : Nat)
    (h : readFrame bs = .tooLarge d) :
    serve env (fuel + 1) i bs = ⟨[], [], .error⟩ := by
  simp [serve, h]

/-- request number `k` is complete and accepted by its branch, with response body `b` -/
def Answered (env : Env) (k : Nat) (r b : Bytes) : Prop :=
  r.length ≤ maxAgentResponseBytes ∧ b.length ≤ maxAgentResponseBytes ∧
  (handle env k r = .reply b ∨ handle env k r = .replyLogged b)

/-- the wire image of a list of requests -/
def frames : List Bytes → Bytes
  | [] => []
  | r :: rs => be32 r.length ++ r ++ frames rs

/-- Every complete, accepted request frame gets exactly one response frame, in request order;
    what follows them (`tail`) is served as if it stood alone. -/
theorem c12_one_each (env : Env) (reqs : List (Bytes × Bytes)) (tail : Bytes) (i fuel : Nat)
    (hwf : ∀ k (h : k < reqs.length), Answered env (i + k) reqs[k].1 reqs[k].2) :
    let o := serve env (fuel + reqs.length) i (frames (reqs.map (·.1)) ++ tail)
    let o' := serve env fuel (i + reqs.length) tail
    o.resps = reqs.map (·.2) ++ o'.resps ∧ o.ending = o'.ending := by
  induction reqs generalizing i with
  | nil => simp [frames]
  | cons p rs ih =>
    obtain ⟨hr, hb, hh⟩ : Answered env i p.1 p.2 := hwf 0 (Nat.zero_lt_succ _)
    have ih' := ih (i + 1) fun k hk => by
      have := hwf (k + 1) (Nat.succ_lt_succ hk)
      rwa [← Nat.add_assoc, Nat.add_right_comm] at this
    simp only [List.map_cons, frames, List.length_cons, ← Nat.add_assoc]
    -- each frame costs the loop one unit of fuel
    rw [List.append_assoc (be32 _ ++ _), serve_step (readFrame_frame _ _ hr) hh hb, Nat.add_right_comm i]
    exact ⟨congrArg (p.2 :: ·) ih'.1, ih'.2⟩

/-- … and a clean end of stream after them ends service without error. -/
theorem c12_clean_eof (env : Env) (reqs : List (Bytes × Bytes)) (i fuel : Nat)
    (hwf : ∀ k (h : k < reqs.length), Answered env (i + k) reqs[k].1 reqs[k].2) :
    let o := serve env (fuel + 1 + reqs.length) i (frames (reqs.map (·.1)))
    o.resps = reqs.map (·.2) ∧ o.ending = .clean := by
  simpa [serve, readFrame] using c12_one_each env reqs [] i (fuel + 1) hwf

/-- `run` gives the loop enough fuel for that: one unit per frame is enough, and every frame
    occupies at least four bytes. -/
theorem frames_length (reqs : List Bytes) : reqs.length ≤ (frames reqs).length := by
  induction reqs with
  | nil => simp [frames]
  | cons r rs ih => simp [frames, be32_length]; omega

/-- Non-vacuity: list-slots then a raw-forwarded code, against a concrete scripted agent. -/
example :
    let env : Env := ⟨fun _ => false, fun _ _ _ => none, fun _ => ([b!"9a", b!"9c"], none),
      fun _ _ => (none, none), fun _ _ => (none, none), fun _ _ => none, fun _ _ => none,
      fun _ r => some (0xaa :: r)⟩
    (run env (frames [[32], [200, 1, 2]])).resps = [encListSlotsResp [b!"9a", b!"9c"] [], [0xaa, 200, 1, 2]] ∧
    (run env (frames [[32], [200, 1, 2]])).ending = .clean := by decide

end C12
end Ysshra

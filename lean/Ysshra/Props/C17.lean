import Ysshra.Lemmas.Crypki
/-
C17 — CA endpoints are tried in order until one signs; exhaustion is an error.
Partial: the back-off bound is proved over ℚ; IEEE-754 rounding, Inf/NaN and the float→int64
conversion of the Go code are only sampled by the correspondence run.
-/
namespace Ysshra
namespace C17
open Crypki

variable {E : Type}

/-- The contacted endpoints are a prefix of the configured list, in order. -/
theorem c17_order (reply : E → Reply) (eps : List E) :
    ∃ rest, eps = (signLoop reply eps).2 ++ rest := by
  rcases signLoop_spec reply eps with ⟨pre, e, rest, x, rfl, _, _, hl⟩ | ⟨_, hl⟩
  · rw [hl]
    exact ⟨rest, by simp⟩
  · rw [hl]
    exact ⟨[], by simp⟩

/-- A success is the answer of the last contacted endpoint, every endpoint before it failed, and
    no later endpoint was contacted. -/
theorem c17_first_success (reply : E → Reply) (eps : List E) (x : List Nat × List Bytes)
    (h : (signLoop reply eps).1 = some x) :
    ∃ pre e, (signLoop reply eps).2 = pre ++ [e] ∧ post (reply e) = some x ∧
      ∀ e' ∈ pre, post (reply e') = none := by
  rcases signLoop_spec reply eps with ⟨pre, e, rest, y, rfl, hpre, hy, hl⟩ | ⟨_, hl⟩
  · rw [hl] at h ⊢
    cases h
    exact ⟨pre, e, rfl, hy, hpre⟩
  · rw [hl] at h
    cases h

/-- If every endpoint fails, all of them were tried, in order, and the call is an error. -/
theorem c17_exhausted (reply : E → Reply) (eps : List E) (h : (signLoop reply eps).1 = none) :
    (signLoop reply eps).2 = eps ∧ ∀ e ∈ eps, post (reply e) = none := by
  rcases signLoop_spec reply eps with ⟨pre, e, rest, y, rfl, _, _, hl⟩ | ⟨hall, hl⟩
  · rw [hl] at h
    cases h
  · rw [hl]
    exact ⟨rfl, hall⟩

/-- No endpoint configured is an error — never an empty success. -/
theorem c17_none_configured (reply : E → Reply) : (sign reply ([] : List E)).1 = none := rfl

/-- A success always carries at least one certificate, with exactly one comment per certificate,
    in the CA's order. -/
theorem c17_never_empty (reply : E → Reply) (eps : List E) (ks : List Nat) (cs : List Bytes)
    (h : (sign reply eps).1 = some (ks, cs)) : ks ≠ [] ∧ ks.length = cs.length := by
  obtain ⟨_, e, _, hpost, _⟩ := c17_first_success reply eps (ks, cs) (sign_eq_signLoop reply eps ▸ h)
  cases hr : reply e with
  | fail => simp [post, hr] at hpost
  | text ls =>
    rw [hr] at hpost
    obtain ⟨hne, rfl, rfl⟩ := keysFromLines_eq_some.1 hpost
    exact ⟨mt List.map_eq_nil_iff.1 hne, by simp⟩

/-- keys and comments of a parsed reply are the parsable lines in order -/
theorem c17_keys_in_order (ls : List Line) (ks : List Nat) (cs : List Bytes)
    (h : keysFromLines ls = some (ks, cs)) : ks.zip cs = ls.filterMap id := by
  obtain ⟨_, rfl, rfl⟩ := keysFromLines_eq_some.1 h
  simp [List.zip_map']

end C17
end Ysshra

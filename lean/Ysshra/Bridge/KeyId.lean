import Ysshra.Gen.KeyId
import Ysshra.Lemmas.KeyId
/-
Bridge: what the translator regenerated from keyid/keyid.go on this run equals
the constants and decision functions the model and the C05 theorems use.
-/
namespace Ysshra.Bridge.KeyId

theorem tags_bridge : Gen.KeyId.fields.map (·.2.1) = KeyID.tags := by rfl

/-- Go kinds of the twelve fields (the model's `setField` decodes by these). -/
theorem kinds_bridge : Gen.KeyId.fields.map (·.2.2) =
    [c!"[]string", c!"string", c!"string", c!"string", c!"string", c!"bool", c!"bool", c!"bool",
     c!"bool", c!"Usage", c!"TouchPolicy", c!"uint16"] := by rfl

theorem names_bridge : Gen.KeyId.fields.map (·.1) =
    [c!"Principals", c!"TransID", c!"ReqUser", c!"ReqIP", c!"ReqHost", c!"IsFirefighter", c!"IsHWKey",
     c!"IsHeadless", c!"IsNonce", c!"Usage", c!"TouchPolicy", c!"Version"] := by rfl

theorem required_bridge : Gen.KeyId.requiredKeysByVersion = [(1, KeyID.requiredV1)] := by rfl

theorem versions_bridge : Gen.KeyId.sanityCheckerVersions = [1] := by rfl

theorem consts_bridge :
    Gen.KeyId.NeverTouch = KeyID.NeverTouch ∧ Gen.KeyId.AlwaysTouch = KeyID.AlwaysTouch ∧
    Gen.KeyId.CachedTouch = KeyID.CachedTouch ∧ Gen.KeyId.DefaultVersion = 1 ∧
    Gen.KeyId.AllUsage = 0 ∧ Gen.KeyId.DefaultTouch = 0 := by decide

/-- by `rfl` while the generated checkers are the model's text, by cases (out-of-range touch
    policies included) after a rewrite of the Go checkers that keeps their meaning -/
theorem sane_bridge (k : KeyID) : Gen.KeyId.sanityChecker_1 k = KeyID.sane k := by
  first
  | rfl
  | (unfold Gen.KeyId.sanityChecker_1 Gen.KeyId.sanityCheckerHeadless Gen.KeyId.sanityCheckerNonce
       KeyID.sane KeyID.saneHeadless KeyID.saneNonce
     simp only [Gen.KeyId.NeverTouch, KeyID.NeverTouch]
     cases k.IsHeadless <;> cases k.IsNonce <;> cases k.IsHWKey <;> cases k.IsFirefighter <;>
       by_cases h : k.TouchPolicy = 1 <;> simp [h])

theorem sane_consistent (k : KeyID) : Gen.KeyId.sanityChecker_1 k = true ↔ k.consistent := by
  rw [sane_bridge]; exact KeyID.sane_iff k

/-- `Marshal`: version lookup, consistency check, `json.Marshal`, and the text is returned as it
    came out of the encoder (no step in between) -/
theorem stepsMarshal_bridge : Gen.KeyId.stepsMarshal =
    [c!"sanityCheckerByVersion[kid.Version]", c!"sanityChecker", c!"json.Marshal",
     c!"return string(kidBytes)", c!"string"] := by rfl

theorem stepsUnmarshal_bridge : Gen.KeyId.stepsUnmarshal =
    [c!"[]byte", c!"json.Unmarshal", c!"requiredKeysByVersion[kid.Version]", c!"make", c!"json.Unmarshal",
     c!"range requiredKeys", c!"sanityCheckerByVersion[kid.Version]", c!"sanityChecker", c!"return kid"] := by rfl

end Ysshra.Bridge.KeyId

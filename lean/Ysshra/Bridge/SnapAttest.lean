import Ysshra.Gen.SnapAttest
/-
Pinned snapshot of Gen.SnapAttest (see extract/snap.go): the regenerated statements of the source files
equal, declaration by declaration, what the hand-written models and harnesses were written against.
`by rfl` and not the term `rfl`: the tactic compares the two literals directly and is half as dear to check.
-/
set_option maxRecDepth 100000
namespace Ysshra.Bridge.SnapAttest
open Ysshra

theorem attestation_yubiattest_attest_pinned : Gen.SnapAttest.attestation_yubiattest_attest = ([
  (c!"const", [c!"modHexMap = \"cbdefghijklnrtuv\""]),
  (c!"type", [c!"Attestor struct { roots *x509.CertPool }"]),
  (c!"NewAttestor func(pivRootCAPath string, u2fRootCAPath string) (*Attestor, error)", [c!"yubicoPIVCA, err := os.ReadFile(pivRootCAPath)", c!"if err != nil { return nil, fmt.Errorf(\"failed to read pivRootCAPath, %v\", err) }", c!"yubicoU2FCA, err := os.ReadFile(u2fRootCAPath)", c!"if err != nil { return nil, fmt.Errorf(\"failed to read u2fRootCAPath, %v\", err) }", c!"roots := x509.NewCertPool()", c!"if ok := roots.AppendCertsFromPEM(yubicoPIVCA); !ok { return nil, fmt.Errorf(\"cannot add root CA certificates\") }", c!"if ok := roots.AppendCertsFromPEM(yubicoU2FCA); !ok { return nil, fmt.Errorf(\"cannot add root CA certificates\") }", c!"return NewAttestorWithCAPool(roots), nil"]),
  (c!"NewAttestorWithCAPool func(roots *x509.CertPool) *Attestor", [c!"return &Attestor{ roots: roots, }"]),
  (c!"(*Attestor).Attest func(f9Cert *x509.Certificate, attestCert *x509.Certificate) error", [c!"if _, err := f9Cert.Verify(x509.VerifyOptions{Roots: a.roots}); err != nil { return err }", c!"return checkSignature(attestCert.SignatureAlgorithm, attestCert.RawTBSCertificate, attestCert.Signature, f9Cert.PublicKey)"])
] : List (Str × List Str)) := by rfl

theorem attestation_yubiattest_signature_pinned : Gen.SnapAttest.attestation_yubiattest_signature = ([
  (c!"var", [c!"hashPrefixes1 = map[crypto.Hash][]byte{ crypto.MD5: {0x30, 0x20, 0x30, 0x0c, 0x06, 0x08, 0x2a, 0x86, 0x48, 0x86, 0xf7, 0x0d, 0x02, 0x05, 0x05, 0x00, 0x04, 0x10}, crypto.SHA1: {0x30, 0x21, 0x30, 0x09, 0x06, 0x05, 0x2b, 0x0e, 0x03, 0x02, 0x1a, 0x05, 0x00, 0x04, 0x14}, crypto.SHA224: {0x30, 0x2d, 0x30, 0x0d, 0x06, 0x09, 0x60, 0x86, 0x48, 0x01, 0x65, 0x03, 0x04, 0x02, 0x04, 0x05, 0x00, 0x04, 0x1c}, crypto.SHA256: {0x30, 0x31, 0x30, 0x0d, 0x06, 0x09, 0x60, 0x86, 0x48, 0x01, 0x65, 0x03, 0x04, 0x02, 0x01, 0x05, 0x00, 0x04, 0x20}, crypto.SHA384: {0x30, 0x41, 0x30, 0x0d, 0x06, 0x09, 0x60, 0x86, 0x48, 0x01, 0x65, 0x03, 0x04, 0x02, 0x02, 0x05, 0x00, 0x04, 0x30}, crypto.SHA512: {0x30, 0x51, 0x30, 0x0d, 0x06, 0x09, 0x60, 0x86, 0x48, 0x01, 0x65, 0x03, 0x04, 0x02, 0x03, 0x05, 0x00, 0x04, 0x40}, crypto.MD5SHA1: {}, crypto.RIPEMD160: {0x30, 0x20, 0x30, 0x08, 0x06, 0x06, 0x28, 0xcf, 0x06, 0x03, 0x00, 0x31, 0x04, 0x14}, }"]),
  (c!"var", [c!"hashPrefixes2 = map[crypto.Hash][]byte{ crypto.MD5: {0x30, 0x1e, 0x30, 0x0a, 0x06, 0x08, 0x2a, 0x86, 0x48, 0x86, 0xf7, 0x0d, 0x02, 0x05, 0x04, 0x10}, crypto.SHA1: {0x30, 0x1f, 0x30, 0x07, 0x06, 0x05, 0x2b, 0x0e, 0x03, 0x02, 0x1a, 0x04, 0x14}, crypto.SHA224: {0x30, 0x2b, 0x30, 0x0b, 0x06, 0x09, 0x60, 0x86, 0x48, 0x01, 0x65, 0x03, 0x04, 0x02, 0x04, 0x04, 0x1c}, crypto.SHA256: {0x30, 0x2f, 0x30, 0x0b, 0x06, 0x09, 0x60, 0x86, 0x48, 0x01, 0x65, 0x03, 0x04, 0x02, 0x01, 0x04, 0x20}, crypto.SHA384: {0x30, 0x3f, 0x30, 0x0b, 0x06, 0x09, 0x60, 0x86, 0x48, 0x01, 0x65, 0x03, 0x04, 0x02, 0x02, 0x04, 0x30}, crypto.SHA512: {0x30, 0x4f, 0x30, 0x0b, 0x06, 0x09, 0x60, 0x86, 0x48, 0x01, 0x65, 0x03, 0x04, 0x02, 0x03, 0x04, 0x40}, crypto.MD5SHA1: {}, crypto.RIPEMD160: {}, }"]),
  (c!"checkSignature func(algo x509.SignatureAlgorithm, signed, signature []byte, publicKey crypto.PublicKey) (err error)", [c!"var hashType crypto.Hash", c!"switch algo { case x509.SHA1WithRSA, x509.DSAWithSHA1, x509.ECDSAWithSHA1: hashType = crypto.SHA1 case x509.SHA256WithRSA, x509.DSAWithSHA256, x509.ECDSAWithSHA256: hashType = crypto.SHA256 case x509.SHA384WithRSA, x509.ECDSAWithSHA384: hashType = crypto.SHA384 case x509.SHA512WithRSA, x509.ECDSAWithSHA512: hashType = crypto.SHA512 case x509.MD2WithRSA, x509.MD5WithRSA: return x509.InsecureAlgorithmError(algo) default: return x509.ErrUnsupportedAlgorithm }", c!"if !hashType.Available() { return x509.ErrUnsupportedAlgorithm }", c!"h := hashType.New()", c!"h.Write(signed)", c!"digest := h.Sum(nil)", c!"switch pub := publicKey.(type) { case *rsa.PublicKey: return verifyPKCS1v15(pub, hashType, digest, signature) }", c!"return x509.ErrUnsupportedAlgorithm"]),
  (c!"verifyPKCS1v15 func(pub *rsa.PublicKey, hash crypto.Hash, hashed []byte, sig []byte) error", [c!"hashLen, prefix1, prefix2, err := pkcs1v15HashInfo(hash, len(hashed))", c!"if err != nil { return err }", c!"tLen1 := len(prefix1) + hashLen", c!"tLen2 := len(prefix2) + hashLen", c!"k := (pub.N.BitLen() + 7) / 8", c!"if k < tLen1+11 { return rsa.ErrVerification }", c!"c := new(big.Int).SetBytes(sig)", c!"m := encrypt(new(big.Int), pub, c)", c!"em := leftPad(m.Bytes(), k)", c!"ok := subtle.ConstantTimeByteEq(em[0], 0)", c!"ok &= subtle.ConstantTimeByteEq(em[1], 1)", c!"ok &= subtle.ConstantTimeCompare(em[k-hashLen:k], hashed)", c!"prefix1ok := subtle.ConstantTimeCompare(em[k-tLen1:k-hashLen], prefix1)", c!"prefix2ok := subtle.ConstantTimeCompare(em[k-tLen2:k-hashLen], prefix2)", c!"prefix1ok &= subtle.ConstantTimeByteEq(em[k-tLen1-1], 0)", c!"prefix2ok &= subtle.ConstantTimeByteEq(em[k-tLen2-1], 0)", c!"ok &= (prefix1ok | prefix2ok)", c!"var correctTLen int", c!"switch { case prefix1ok == 1: correctTLen = tLen1 case prefix2ok == 1: correctTLen = tLen2 }", c!"for i := 2; i < k-correctTLen-1; i++ { ok &= subtle.ConstantTimeByteEq(em[i], 0xff) }", c!"if ok != 1 { return rsa.ErrVerification }", c!"return nil"]),
  (c!"pkcs1v15HashInfo func(hash crypto.Hash, inLen int) (hashLen int, prefix1 []byte, prefix2 []byte, err error)", [c!"if hash == 0 { return inLen, nil, nil, nil }", c!"hashLen = hash.Size()", c!"if inLen != hashLen { return 0, nil, nil, errors.New(\"crypto/rsa: input must be hashed message\") }", c!"prefix1, ok := hashPrefixes1[hash]", c!"if !ok { return 0, nil, nil, errors.New(\"crypto/rsa: unsupported hash function\") }", c!"prefix2, ok = hashPrefixes2[hash]", c!"if !ok { return 0, nil, nil, errors.New(\"crypto/rsa: unsupported hash function\") }", c!"return"]),
  (c!"encrypt func(c *big.Int, pub *rsa.PublicKey, m *big.Int) *big.Int", [c!"e := big.NewInt(int64(pub.E))", c!"c.Exp(m, e, pub.N)", c!"return c"]),
  (c!"leftPad func(input []byte, size int) (out []byte)", [c!"n := len(input)", c!"if n > size { n = size }", c!"out = make([]byte, size)", c!"copy(out[len(out)-n:], input)", c!"return"])
] : List (Str × List Str)) := by rfl

end Ysshra.Bridge.SnapAttest

import Ysshra.Bridge.CertType
import Ysshra.Props.C05
/-
C19 — certificate type, label and principal suffix are a fixed total function of the KeyID.
Theorems that speak of `Gen.CertType.*` are about the functions the translator regenerates from
type.go / principal.go; those about `getType` / `certLabel` reach them through `getType_bridge`.
-/
namespace Ysshra
namespace C19
open KeyID

/-- The property's decision table, written from the statement (not from the code). -/
def specType (nonce ff hw : Bool) (touch : Int) (crit : Bool) : CType :=
  if nonce then .nonce
  else if ff then
    (if hw then .firefighter else if crit then .touchlessSudoInAgent else .touchlessInAgent)
  else if touch = 2 ∨ touch = 3 then .touchSudo
  else if touch = 1 then (if crit then .touchlessSudo else .touchless)
  else .unknown

theorem cascade_eq_specType (k : KeyID) (c : CertView) :
    cascade k c = specType k.IsNonce k.IsFirefighter k.IsHWKey k.TouchPolicy (critSet c) := by
  have ht : (k.TouchPolicy == CachedTouch || k.TouchPolicy == AlwaysTouch) = true ↔
      k.TouchPolicy = 2 ∨ k.TouchPolicy = 3 := by
    simp [CachedTouch, AlwaysTouch, or_comm]
  unfold cascade specType
  cases k.IsNonce <;> cases k.IsFirefighter <;> cases k.IsHWKey <;> simp [ht, NeverTouch]

theorem specType_unknown_iff (n f h : Bool) (t : Int) (c : Bool) :
    specType n f h t c = .unknown ↔ n = false ∧ f = false ∧ t ≠ 1 ∧ t ≠ 2 ∧ t ≠ 3 := by
  unfold specType
  cases n
  · cases f
    · -- neither flag: the touch policy decides
      by_cases h23 : t = 2 ∨ t = 3
      · simp only [h23, ↓reduceIte, reduceCtorEq, false_iff]
        exact fun ⟨_, _, _, h2, h3⟩ => h23.elim h2 h3
      · by_cases h1 : t = 1
        · cases c <;> simp [h1]
        · simp only [h23, h1, Bool.false_eq_true, ↓reduceIte, true_and, true_iff]
          exact ⟨h1, fun e => h23 (.inl e), fun e => h23 (.inr e)⟩
    · cases h <;> cases c <;> simp
  · simp

/-- The regenerated `GetType` is the table, for every certificate: unknown exactly when the KeyID
    does not decode (C05 says what decodes) or no rule applies. -/
theorem c19_type_table (cert : Option CertView) :
    Gen.CertType.GetType cert =
      (match cert with
       | none => CType.unknown
       | some c =>
         match KeyID.unmarshal c.KeyId with
         | .error _ => CType.unknown
         | .ok k => specType k.IsNonce k.IsFirefighter k.IsHWKey k.TouchPolicy (critSet c)).toNat := by
  rw [Bridge.CertType.getType_bridge]
  cases cert with
  | none => rfl
  | some c =>
    simp only [getType]
    cases KeyID.unmarshal c.KeyId with
    | error e => rfl
    | ok k => exact congrArg CType.toNat (cascade_eq_specType k c)

/-- The type depends only on nonce, firefighter, hardware key, touch policy and the presence of a
    non-empty touchless-sudo-hosts option. -/
theorem c19_depends_only (c1 c2 : CertView) (k1 k2 : KeyID)
    (h1 : KeyID.unmarshal c1.KeyId = .ok k1) (h2 : KeyID.unmarshal c2.KeyId = .ok k2)
    (hn : k1.IsNonce = k2.IsNonce) (hf : k1.IsFirefighter = k2.IsFirefighter)
    (hh : k1.IsHWKey = k2.IsHWKey) (ht : k1.TouchPolicy = k2.TouchPolicy)
    (hc : critSet c1 = critSet c2) :
    Gen.CertType.GetType (some c1) = Gen.CertType.GetType (some c2) := by
  rw [c19_type_table, c19_type_table]; simp only [h1, h2, hn, hf, hh, ht, hc]

/-- nonce takes precedence over everything, firefighter over the touch policy -/
theorem c19_precedence (c : CertView) (k : KeyID) (h : KeyID.unmarshal c.KeyId = .ok k) :
    (k.IsNonce = true → getType (some c) = .nonce) ∧
    (k.IsNonce = false → k.IsFirefighter = true →
      getType (some c) = .firefighter ∨ getType (some c) = .touchlessInAgent ∨
      getType (some c) = .touchlessSudoInAgent) := by
  simp only [getType, h, cascade_eq_specType, specType]
  constructor
  · intro hn
    simp [hn]
  · intro hn hf
    cases k.IsHWKey <;> cases critSet c <;> simp [hn, hf]

/-- unknown exactly when the KeyID does not decode or no rule selects a type -/
theorem c19_unknown_iff (c : CertView) :
    getType (some c) = .unknown ↔
      ((∃ e, KeyID.unmarshal c.KeyId = .error e) ∨
       (∃ k, KeyID.unmarshal c.KeyId = .ok k ∧ k.IsNonce = false ∧ k.IsFirefighter = false ∧
          k.TouchPolicy ≠ 1 ∧ k.TouchPolicy ≠ 2 ∧ k.TouchPolicy ≠ 3)) := by
  simp only [getType]
  cases KeyID.unmarshal c.KeyId with
  | error e => simp
  | ok k => simp [cascade_eq_specType, specType_unknown_iff]

/-- a nil certificate has the unknown type and no label -/
theorem c19_nil : Gen.CertType.GetType none = 0 ∧ certLabel none = none := ⟨rfl, rfl⟩

/-- Only consistent, version-1 KeyIDs reach the cascade (by C05). -/
theorem c19_only_consistent (c : CertView) (h : getType (some c) ≠ .unknown) :
    ∃ k, KeyID.unmarshal c.KeyId = .ok k ∧ k.Version = 1 ∧ k.consistent := by
  simp only [getType] at h
  cases hk : KeyID.unmarshal c.KeyId with
  | error e => simp [hk] at h
  | ok k =>
    obtain ⟨hv, hc, _⟩ := C05.c05_unmarshal_sound _ _ hk
    exact ⟨k, rfl, hv, hc⟩

/-- Label = type name ++ "SSH-" ++ transaction id for a known type; no label for unknown. -/
theorem c19_label (c : CertView) :
    certLabel (some c) =
      match getType (some c), KeyID.unmarshal c.KeyId with
      | .unknown, _ => none
      | t, .ok k => (Gen.CertType.TypeLabel.lookup t.toNat).map (· ++ c!"SSH-" ++ k.TransID)
      | _, .error _ => none := by
  simp only [certLabel, Bridge.CertType.label_bridge]
  cases getType (some c) <;> cases KeyID.unmarshal c.KeyId <;> rfl

/-- Principal suffix rules, order and length preserved; nothing for the unknown type. -/
theorem c19_principals (ps : List Str) (t : CType) :
    Gen.CertType.GetPrincipals ps t.toNat =
      match t with
      | .unknown => []
      | .touchSudo => ps.map (· ++ c!":touch")
      | .touchless => ps.map (· ++ c!":notouch")
      | .touchlessSudo => ps.map (· ++ c!":notouch")
      | _ => ps := by
  rw [Bridge.CertType.getPrincipals_bridge]
  cases t <;> rfl

theorem c19_principals_length (ps : List Str) (t : CType) (h : t ≠ .unknown) :
    (Gen.CertType.GetPrincipals ps t.toNat).length = ps.length := by
  rw [c19_principals]; cases t <;> simp_all

/-- Non-vacuity: a concrete never-touch KeyID with the critical option is TouchlessSudo. -/
example :
    let kid : KeyID := ⟨some [c!"alice"], c!"ab12", c!"u", c!"1.2.3.4", c!"h", false, true, false,
      false, 0, 1, 1⟩
    getType (some ⟨some kid.toJ, some [(critHosts, c!"h1")]⟩) = .touchlessSudo := by decide

end C19
end Ysshra

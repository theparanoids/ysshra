import Ysshra.Gen.SnapParse
/-
Pinned snapshot of Gen.SnapParse (see extract/snap.go): the regenerated statements of the source files
equal, declaration by declaration, what the hand-written models and harnesses were written against.
`by rfl` and not the term `rfl`: the tactic compares the two literals directly and is half as dear to check.
-/
set_option maxRecDepth 100000
namespace Ysshra.Bridge.SnapParse
open Ysshra

theorem attestation_yubiattest_parse_pinned : Gen.SnapParse.attestation_yubiattest_parse = ([
  (c!"var", [c!"oidPublicKeyRSA = asn1.ObjectIdentifier{1, 2, 840, 113549, 1, 1, 1}", c!"oidPublicKeyECDSA = asn1.ObjectIdentifier{1, 2, 840, 10045, 2, 1}"]),
  (c!"var", [c!"oidSignatureMD2WithRSA = asn1.ObjectIdentifier{1, 2, 840, 113549, 1, 1, 2}", c!"oidSignatureMD5WithRSA = asn1.ObjectIdentifier{1, 2, 840, 113549, 1, 1, 4}", c!"oidSignatureSHA1WithRSA = asn1.ObjectIdentifier{1, 2, 840, 113549, 1, 1, 5}", c!"oidSignatureSHA256WithRSA = asn1.ObjectIdentifier{1, 2, 840, 113549, 1, 1, 11}", c!"oidSignatureSHA384WithRSA = asn1.ObjectIdentifier{1, 2, 840, 113549, 1, 1, 12}", c!"oidSignatureSHA512WithRSA = asn1.ObjectIdentifier{1, 2, 840, 113549, 1, 1, 13}", c!"oidSignatureRSAPSS = asn1.ObjectIdentifier{1, 2, 840, 113549, 1, 1, 10}", c!"oidSignatureECDSAWithSHA1 = asn1.ObjectIdentifier{1, 2, 840, 10045, 4, 1}", c!"oidSignatureECDSAWithSHA256 = asn1.ObjectIdentifier{1, 2, 840, 10045, 4, 3, 2}", c!"oidSignatureECDSAWithSHA384 = asn1.ObjectIdentifier{1, 2, 840, 10045, 4, 3, 3}", c!"oidSignatureECDSAWithSHA512 = asn1.ObjectIdentifier{1, 2, 840, 10045, 4, 3, 4}", c!"oidSHA256 = asn1.ObjectIdentifier{2, 16, 840, 1, 101, 3, 4, 2, 1}", c!"oidSHA384 = asn1.ObjectIdentifier{2, 16, 840, 1, 101, 3, 4, 2, 2}", c!"oidSHA512 = asn1.ObjectIdentifier{2, 16, 840, 1, 101, 3, 4, 2, 3}", c!"oidMGF1 = asn1.ObjectIdentifier{1, 2, 840, 113549, 1, 1, 8}", c!"oidISOSignatureSHA1WithRSA = asn1.ObjectIdentifier{1, 3, 14, 3, 2, 29}"]),
  (c!"var", [c!"signatureAlgorithmDetails = []struct { algo x509.SignatureAlgorithm oid asn1.ObjectIdentifier pubKeyAlgo x509.PublicKeyAlgorithm hash crypto.Hash }{ {x509.MD2WithRSA, oidSignatureMD2WithRSA, x509.RSA, crypto.Hash(0)}, {x509.MD5WithRSA, oidSignatureMD5WithRSA, x509.RSA, crypto.MD5}, {x509.SHA1WithRSA, oidSignatureSHA1WithRSA, x509.RSA, crypto.SHA1}, {x509.SHA1WithRSA, oidISOSignatureSHA1WithRSA, x509.RSA, crypto.SHA1}, {x509.SHA256WithRSA, oidSignatureSHA256WithRSA, x509.RSA, crypto.SHA256}, {x509.SHA384WithRSA, oidSignatureSHA384WithRSA, x509.RSA, crypto.SHA384}, {x509.SHA512WithRSA, oidSignatureSHA512WithRSA, x509.RSA, crypto.SHA512}, {x509.SHA256WithRSAPSS, oidSignatureRSAPSS, x509.RSA, crypto.SHA256}, {x509.SHA384WithRSAPSS, oidSignatureRSAPSS, x509.RSA, crypto.SHA384}, {x509.SHA512WithRSAPSS, oidSignatureRSAPSS, x509.RSA, crypto.SHA512}, {x509.ECDSAWithSHA1, oidSignatureECDSAWithSHA1, x509.ECDSA, crypto.SHA1}, {x509.ECDSAWithSHA256, oidSignatureECDSAWithSHA256, x509.ECDSA, crypto.SHA256}, {x509.ECDSAWithSHA384, oidSignatureECDSAWithSHA384, x509.ECDSA, crypto.SHA384}, {x509.ECDSAWithSHA512, oidSignatureECDSAWithSHA512, x509.ECDSA, crypto.SHA512}, }"]),
  (c!"type", [c!"pssParameters struct { Hash pkix.AlgorithmIdentifier `asn1:\"explicit,tag:0\"` MGF pkix.AlgorithmIdentifier `asn1:\"explicit,tag:1\"` SaltLength int `asn1:\"explicit,tag:2\"` TrailerField int `asn1:\"optional,explicit,tag:3,default:1\"` }"]),
  (c!"var", [c!"oidNamedCurveP256 = asn1.ObjectIdentifier{1, 2, 840, 10045, 3, 1, 7}", c!"oidNamedCurveP384 = asn1.ObjectIdentifier{1, 3, 132, 0, 34}", c!"oidNamedCurveP521 = asn1.ObjectIdentifier{1, 3, 132, 0, 35}"]),
  (c!"type", [c!"certificate struct { Raw asn1.RawContent TBSCertificate tbsCertificate SignatureAlgorithm pkix.AlgorithmIdentifier SignatureValue asn1.BitString }"]),
  (c!"type", [c!"tbsCertificate struct { Raw asn1.RawContent Version int `asn1:\"optional,explicit,default:0,tag:0\"` SerialNumber *big.Int SignatureAlgorithm pkix.AlgorithmIdentifier Issuer asn1.RawValue Validity validity Subject asn1.RawValue PublicKey publicKeyInfo UniqueId asn1.BitString `asn1:\"optional,tag:1\"` SubjectUniqueId asn1.BitString `asn1:\"optional,tag:2\"` Extensions []pkix.Extension `asn1:\"optional,explicit,tag:3\"` }"]),
  (c!"type", [c!"validity struct { NotBefore, NotAfter time.Time }"]),
  (c!"type", [c!"publicKeyInfo struct { Raw asn1.RawContent Algorithm pkix.AlgorithmIdentifier PublicKey asn1.BitString }"]),
  (c!"type", [c!"authKeyId struct { Id []byte `asn1:\"optional,tag:0\"` }"]),
  (c!"type", [c!"basicConstraints struct { IsCA bool `asn1:\"optional\"` MaxPathLen int `asn1:\"optional,default:-1\"` }"]),
  (c!"type", [c!"generalSubtree struct { Name string `asn1:\"tag:2,optional,ia5\"` }"]),
  (c!"type", [c!"nameConstraints struct { Permitted []generalSubtree `asn1:\"optional,tag:0\"` Excluded []generalSubtree `asn1:\"optional,tag:1\"` }"]),
  (c!"type", [c!"authorityInfoAccess struct { Method asn1.ObjectIdentifier Location asn1.RawValue }"]),
  (c!"type", [c!"distributionPointName struct { FullName asn1.RawValue `asn1:\"optional,tag:0\"` RelativeName pkix.RDNSequence `asn1:\"optional,tag:1\"` }"]),
  (c!"type", [c!"distributionPoint struct { DistributionPoint distributionPointName `asn1:\"optional,tag:0\"` Reason asn1.BitString `asn1:\"optional,tag:1\"` CRLIssuer asn1.RawValue `asn1:\"optional,tag:2\"` }"]),
  (c!"type", [c!"policyInformation struct { Policy asn1.ObjectIdentifier }"]),
  (c!"parseSANExtension func(value []byte) (dnsNames, emailAddresses []string, ipAddresses []net.IP, err error)", [c!"var seq asn1.RawValue", c!"var rest []byte", c!"if rest, err = asn1.Unmarshal(value, &seq); err != nil { return } else if len(rest) != 0 { err = errors.New(\"x509: trailing data after X.509 extension\") return }", c!"if !seq.IsCompound || seq.Tag != 16 || seq.Class != 0 { err = asn1.StructuralError{Msg: \"bad SAN sequence\"} return }", c!"rest = seq.Bytes", c!"for len(rest) > 0 { var v asn1.RawValue rest, err = asn1.Unmarshal(rest, &v) if err != nil { return } switch v.Tag { case 1: emailAddresses = append(emailAddresses, string(v.Bytes)) case 2: dnsNames = append(dnsNames, string(v.Bytes)) case 7: switch len(v.Bytes) { case net.IPv4len, net.IPv6len: ipAddresses = append(ipAddresses, v.Bytes) default: err = errors.New(\"x509: certificate contained IP address of length \" + strconv.Itoa(len(v.Bytes))) return } } }", c!"return"]),
  (c!"var", [c!"oidExtKeyUsageAny = asn1.ObjectIdentifier{2, 5, 29, 37, 0}", c!"oidExtKeyUsageServerAuth = asn1.ObjectIdentifier{1, 3, 6, 1, 5, 5, 7, 3, 1}", c!"oidExtKeyUsageClientAuth = asn1.ObjectIdentifier{1, 3, 6, 1, 5, 5, 7, 3, 2}", c!"oidExtKeyUsageCodeSigning = asn1.ObjectIdentifier{1, 3, 6, 1, 5, 5, 7, 3, 3}", c!"oidExtKeyUsageEmailProtection = asn1.ObjectIdentifier{1, 3, 6, 1, 5, 5, 7, 3, 4}", c!"oidExtKeyUsageIPSECEndSystem = asn1.ObjectIdentifier{1, 3, 6, 1, 5, 5, 7, 3, 5}", c!"oidExtKeyUsageIPSECTunnel = asn1.ObjectIdentifier{1, 3, 6, 1, 5, 5, 7, 3, 6}", c!"oidExtKeyUsageIPSECUser = asn1.ObjectIdentifier{1, 3, 6, 1, 5, 5, 7, 3, 7}", c!"oidExtKeyUsageTimeStamping = asn1.ObjectIdentifier{1, 3, 6, 1, 5, 5, 7, 3, 8}", c!"oidExtKeyUsageOCSPSigning = asn1.ObjectIdentifier{1, 3, 6, 1, 5, 5, 7, 3, 9}", c!"oidExtKeyUsageMicrosoftServerGatedCrypto = asn1.ObjectIdentifier{1, 3, 6, 1, 4, 1, 311, 10, 3, 3}", c!"oidExtKeyUsageNetscapeServerGatedCrypto = asn1.ObjectIdentifier{2, 16, 840, 1, 113730, 4, 1}"]),
  (c!"var", [c!"extKeyUsageOIDs = []struct { extKeyUsage x509.ExtKeyUsage oid asn1.ObjectIdentifier }{ {x509.ExtKeyUsageAny, oidExtKeyUsageAny}, {x509.ExtKeyUsageServerAuth, oidExtKeyUsageServerAuth}, {x509.ExtKeyUsageClientAuth, oidExtKeyUsageClientAuth}, {x509.ExtKeyUsageCodeSigning, oidExtKeyUsageCodeSigning}, {x509.ExtKeyUsageEmailProtection, oidExtKeyUsageEmailProtection}, {x509.ExtKeyUsageIPSECEndSystem, oidExtKeyUsageIPSECEndSystem}, {x509.ExtKeyUsageIPSECTunnel, oidExtKeyUsageIPSECTunnel}, {x509.ExtKeyUsageIPSECUser, oidExtKeyUsageIPSECUser}, {x509.ExtKeyUsageTimeStamping, oidExtKeyUsageTimeStamping}, {x509.ExtKeyUsageOCSPSigning, oidExtKeyUsageOCSPSigning}, {x509.ExtKeyUsageMicrosoftServerGatedCrypto, oidExtKeyUsageMicrosoftServerGatedCrypto}, {x509.ExtKeyUsageNetscapeServerGatedCrypto, oidExtKeyUsageNetscapeServerGatedCrypto}, }"]),
  (c!"extKeyUsageFromOID func(oid asn1.ObjectIdentifier) (eku x509.ExtKeyUsage, ok bool)", [c!"for _, pair := range extKeyUsageOIDs { if oid.Equal(pair.oid) { return pair.extKeyUsage, true } }", c!"return"]),
  (c!"var", [c!"oidExtensionAuthorityInfoAccess = []int{1, 3, 6, 1, 5, 5, 7, 1, 1}"]),
  (c!"var", [c!"oidAuthorityInfoAccessOcsp = asn1.ObjectIdentifier{1, 3, 6, 1, 5, 5, 7, 48, 1}", c!"oidAuthorityInfoAccessIssuers = asn1.ObjectIdentifier{1, 3, 6, 1, 5, 5, 7, 48, 2}"]),
  (c!"ParseCertificate func(asn1Data []byte) (*x509.Certificate, error)", [c!"var cert certificate", c!"rest, err := asn1.Unmarshal(asn1Data, &cert)", c!"if err != nil { return nil, err }", c!"if len(rest) > 0 { return nil, asn1.SyntaxError{Msg: \"trailing data\"} }", c!"return parseCertificate(&cert)"]),
  (c!"parseCertificate func(in *certificate) (*x509.Certificate, error)", [c!"out := new(x509.Certificate)", c!"out.Raw = in.Raw", c!"out.RawTBSCertificate = in.TBSCertificate.Raw", c!"out.RawSubjectPublicKeyInfo = in.TBSCertificate.PublicKey.Raw", c!"out.RawSubject = in.TBSCertificate.Subject.FullBytes", c!"out.RawIssuer = in.TBSCertificate.Issuer.FullBytes", c!"out.Signature = in.SignatureValue.RightAlign()", c!"out.SignatureAlgorithm = getSignatureAlgorithmFromAI(in.TBSCertificate.SignatureAlgorithm)", c!"out.PublicKeyAlgorithm = getPublicKeyAlgorithmFromOID(in.TBSCertificate.PublicKey.Algorithm.Algorithm)", c!"var err error", c!"out.PublicKey, err = parsePublicKey(out.PublicKeyAlgorithm, &in.TBSCertificate.PublicKey)", c!"if err != nil { return nil, err }", c!"out.Version = in.TBSCertificate.Version + 1", c!"out.SerialNumber = in.TBSCertificate.SerialNumber", c!"var issuer, subject pkix.RDNSequence", c!"if rest, err := asn1.Unmarshal(in.TBSCertificate.Subject.FullBytes, &subject); err != nil { return nil, err } else if len(rest) != 0 { return nil, errors.New(\"x509: trailing data after X.509 subject\") }", c!"if rest, err := asn1.Unmarshal(in.TBSCertificate.Issuer.FullBytes, &issuer); err != nil { return nil, err } else if len(rest) != 0 { return nil, errors.New(\"x509: trailing data after X.509 subject\") }", c!"out.Issuer.FillFromRDNSequence(&issuer)", c!"out.Subject.FillFromRDNSequence(&subject)", c!"out.NotBefore = in.TBSCertificate.Validity.NotBefore", c!"out.NotAfter = in.TBSCertificate.Validity.NotAfter", c!"for _, e := range in.TBSCertificate.Extensions { out.Extensions = append(out.Extensions, e) unhandled := false if len(e.Id) == 4 && e.Id[0] == 2 && e.Id[1] == 5 && e.Id[2] == 29 { switch e.Id[3] { case 15: var usageBits asn1.BitString if rest, err := asn1.Unmarshal(e.Value, &usageBits); err != nil { return nil, err } else if len(rest) != 0 { return nil, errors.New(\"x509: trailing data after X.509 KeyUsage\") } var usage int for i := 0; i < 9; i++ { if usageBits.At(i) != 0 { usage |= 1 << uint(i) } } out.KeyUsage = x509.KeyUsage(usage) case 19: var constraints basicConstraints if rest, err := asn1.Unmarshal(e.Value, &constraints); err != nil { return nil, err } else if len(rest) != 0 { return nil, errors.New(\"x509: trailing data after X.509 BasicConstraints\") } out.BasicConstraintsValid = true out.IsCA = constraints.IsCA out.MaxPathLen = constraints.MaxPathLen out.MaxPathLenZero = out.MaxPathLen == 0 case 17: out.DNSNames, out.EmailAddresses, out.IPAddresses, err = parseSANExtension(e.Value) if err != nil { return nil, err } if len(out.DNSNames) == 0 && len(out.EmailAddresses) == 0 && len(out.IPAddresses) == 0 { unhandled = true } case 30: var constraints nameConstraints if rest, err := asn1.Unmarshal(e.Value, &constraints); err != nil { return nil, err } else if len(rest) != 0 { return nil, errors.New(\"x509: trailing data after X.509 NameConstraints\") } if len(constraints.Excluded) > 0 && e.Critical { return out, x509.UnhandledCriticalExtension{} } for _, subtree := range constraints.Permitted { if len(subtree.Name) == 0 { if e.Critical { return out, x509.UnhandledCriticalExtension{} } continue } out.PermittedDNSDomains = append(out.PermittedDNSDomains, subtree.Name) } case 31: var cdp []distributionPoint if rest, err := asn1.Unmarshal(e.Value, &cdp); err != nil { return nil, err } else if len(rest) != 0 { return nil, errors.New(\"x509: trailing data after X.509 CRL distribution point\") } for _, dp := range cdp { if len(dp.DistributionPoint.FullName.Bytes) == 0 { continue } var n asn1.RawValue if _, err := asn1.Unmarshal(dp.DistributionPoint.FullName.Bytes, &n); err != nil { return nil, err } if n.Tag == 6 { out.CRLDistributionPoints = append(out.CRLDistributionPoints, string(n.Bytes)) } } case 35: var a authKeyId if rest, err := asn1.Unmarshal(e.Value, &a); err != nil { return nil, err } else if len(rest) != 0 { return nil, errors.New(\"x509: trailing data after X.509 authority key-id\") } out.AuthorityKeyId = a.Id case 37: var keyUsage []asn1.ObjectIdentifier if rest, err := asn1.Unmarshal(e.Value, &keyUsage); err != nil { return nil, err } else if len(rest) != 0 { return nil, errors.New(\"x509: trailing data after X.509 ExtendedKeyUsage\") } for _, u := range keyUsage { if extKeyUsage, ok := extKeyUsageFromOID(u); ok { out.ExtKeyUsage = append(out.ExtKeyUsage, extKeyUsage) } else { out.UnknownExtKeyUsage = append(out.UnknownExtKeyUsage, u) } } case 14: var keyid []byte if rest, err := asn1.Unmarshal(e.Value, &keyid); err != nil { return nil, err } else if len(rest) != 0 { return nil, errors.New(\"x509: trailing data after X.509 key-id\") } out.SubjectKeyId = keyid case 32: var policies []policyInformation if rest, err := asn1.Unmarshal(e.Value, &policies); err != nil { return nil, err } else if len(rest) != 0 { return nil, errors.New(\"x509: trailing data after X.509 certificate policies\") } out.PolicyIdentifiers = make([]asn1.ObjectIdentifier, len(policies)) for i, policy := range policies { out.PolicyIdentifiers[i] = policy.Policy } default: unhandled = true } } else if e.Id.Equal(oidExtensionAuthorityInfoAccess) { var aia []authorityInfoAccess if rest, err := asn1.Unmarshal(e.Value, &aia); err != nil { return nil, err } else if len(rest) != 0 { return nil, errors.New(\"x509: trailing data after X.509 authority information\") } for _, v := range aia { if v.Location.Tag != 6 { continue } if v.Method.Equal(oidAuthorityInfoAccessOcsp) { out.OCSPServer = append(out.OCSPServer, string(v.Location.Bytes)) } else if v.Method.Equal(oidAuthorityInfoAccessIssuers) { out.IssuingCertificateURL = append(out.IssuingCertificateURL, string(v.Location.Bytes)) } } } else { unhandled = true } if e.Critical && unhandled { out.UnhandledCriticalExtensions = append(out.UnhandledCriticalExtensions, e.Id) } }", c!"return out, nil"]),
  (c!"getPublicKeyAlgorithmFromOID func(oid asn1.ObjectIdentifier) x509.PublicKeyAlgorithm", [c!"switch { case oid.Equal(oidPublicKeyRSA): return x509.RSA case oid.Equal(oidPublicKeyECDSA): return x509.ECDSA }", c!"return x509.UnknownPublicKeyAlgorithm"]),
  (c!"getSignatureAlgorithmFromAI func(ai pkix.AlgorithmIdentifier) x509.SignatureAlgorithm", [c!"if !ai.Algorithm.Equal(oidSignatureRSAPSS) { for _, details := range signatureAlgorithmDetails { if ai.Algorithm.Equal(details.oid) { return details.algo } } return x509.UnknownSignatureAlgorithm }", c!"var params pssParameters", c!"if _, err := asn1.Unmarshal(ai.Parameters.FullBytes, &params); err != nil { return x509.UnknownSignatureAlgorithm }", c!"var mgf1HashFunc pkix.AlgorithmIdentifier", c!"if _, err := asn1.Unmarshal(params.MGF.Parameters.FullBytes, &mgf1HashFunc); err != nil { return x509.UnknownSignatureAlgorithm }", c!"asn1NULL := []byte{0x05, 0x00}", c!"if !bytes.Equal(params.Hash.Parameters.FullBytes, asn1NULL) || !params.MGF.Algorithm.Equal(oidMGF1) || !mgf1HashFunc.Algorithm.Equal(params.Hash.Algorithm) || !bytes.Equal(mgf1HashFunc.Parameters.FullBytes, asn1NULL) || params.TrailerField != 1 { return x509.UnknownSignatureAlgorithm }", c!"switch { case params.Hash.Algorithm.Equal(oidSHA256) && params.SaltLength == 32: return x509.SHA256WithRSAPSS case params.Hash.Algorithm.Equal(oidSHA384) && params.SaltLength == 48: return x509.SHA384WithRSAPSS case params.Hash.Algorithm.Equal(oidSHA512) && params.SaltLength == 64: return x509.SHA512WithRSAPSS }", c!"return x509.UnknownSignatureAlgorithm"]),
  (c!"type", [c!"rsaPublicKey struct { N *big.Int E int }"]),
  (c!"ecdhCurveFromOID func(oid asn1.ObjectIdentifier) (ecdh.Curve, error)", [c!"switch { case oid.Equal(oidNamedCurveP256): return ecdh.P256(), nil case oid.Equal(oidNamedCurveP384): return ecdh.P384(), nil case oid.Equal(oidNamedCurveP521): return ecdh.P521(), nil default: return nil, errors.New(\"no matching ANS identifier\") }"]),
  (c!"parsePublicKey func(algo x509.PublicKeyAlgorithm, keyData *publicKeyInfo) (interface{}, error)", [c!"asn1Data := keyData.PublicKey.RightAlign()", c!"switch algo { case x509.RSA: p := new(rsaPublicKey) rest, err := asn1.Unmarshal(asn1Data, p) if err != nil { return nil, err } if len(rest) != 0 { return nil, errors.New(\"x509: trailing data after RSA public key\") } if p.N.Sign() <= 0 { return nil, errors.New(\"x509: RSA modulus is not a positive number\") } if p.E <= 0 { return nil, errors.New(\"x509: RSA public exponent is not a positive number\") } pub := &rsa.PublicKey{ E: p.E, N: p.N, } return pub, nil case x509.ECDSA: paramsData := keyData.Algorithm.Parameters.FullBytes namedCurveOID := new(asn1.ObjectIdentifier) rest, err := asn1.Unmarshal(paramsData, namedCurveOID) if err != nil { return nil, err } if len(rest) != 0 { return nil, errors.New(\"x509: trailing data after ECDSA parameters\") } c, err := ecdhCurveFromOID(*namedCurveOID) if err != nil { return nil, err } p, err := c.NewPublicKey(asn1Data) if err != nil { return nil, errors.New(\"x509: parsing public key for ECDSA\") } encodedPubKey := p.Bytes() switch p.Curve() { case ecdh.P256(): return &ecdsa.PublicKey{ Curve: elliptic.P256(), X: big.NewInt(0).SetBytes(encodedPubKey[1:33]), Y: big.NewInt(0).SetBytes(encodedPubKey[33:]), }, nil case ecdh.P384(): return &ecdsa.PublicKey{ Curve: elliptic.P384(), X: big.NewInt(0).SetBytes(encodedPubKey[1:49]), Y: big.NewInt(0).SetBytes(encodedPubKey[49:]), }, nil case ecdh.P521(): return &ecdsa.PublicKey{ Curve: elliptic.P521(), X: big.NewInt(0).SetBytes(encodedPubKey[1:67]), Y: big.NewInt(0).SetBytes(encodedPubKey[67:]), }, nil default: return nil, errors.New(\"x509: unsupported ECDSA public key type\") } default: return nil, nil }"])
] : List (Str × List Str)) := by rfl

theorem attestation_yubiattest_modhex_pinned : Gen.SnapParse.attestation_yubiattest_modhex = ([
  (c!"ModHex func(cert *x509.Certificate) (modhex string, err error)", [c!"var serial []byte", c!"for _, ext := range cert.Extensions { if ext.Id.String() == \"1.3.6.1.4.1.41482.3.7\" { if len(ext.Value) < 2 { return \"\", fmt.Errorf(\"invalid serial number extension length: %v\", len(ext.Value)) } serial = ext.Value[2:] } }", c!"if serial == nil { return \"\", fmt.Errorf(\"cannot find serial number\") }", c!"dst := make([]byte, 8)", c!"dstidx := 0", c!"switch len(serial) { case 3: dst[0] = modHexMap[0] dst[1] = modHexMap[0] dstidx += 2 case 4: break default: return \"\", fmt.Errorf(\"invalid serial number length: %v\", len(serial)) }", c!"for _, val := range serial { dst[dstidx] = modHexMap[(val>>4)&0xf] dst[dstidx+1] = modHexMap[val&0xf] dstidx += 2 }", c!"return string(dst), nil"])
] : List (Str × List Str)) := by rfl

theorem agent_utils_parse_pinned : Gen.SnapParse.agent_utils_parse = ([
  (c!"ParsePEMCertificate func(data []byte) (cert *x509.Certificate, err error)", [c!"certs, err := ParsePEMCertificates(data)", c!"if err != nil { return nil, err }", c!"if len(certs) == 0 { return nil, errors.New(\"certificate not found\") }", c!"return certs[0], nil"]),
  (c!"ParsePEMCertificates func(data []byte) (certs []*x509.Certificate, err error)", [c!"for len(data) != 0 { ASN1, rest := pem.Decode(data) if ASN1 == nil { if len(bytes.TrimSpace(data)) == 0 { return certs, nil } return nil, fmt.Errorf(\"PEM: failed to decode %s\", data) } data = rest cert, err := yubiattest.ParseCertificate(ASN1.Bytes) if err != nil { return nil, err } certs = append(certs, cert) }", c!"return certs, nil"])
] : List (Str × List Str)) := by rfl

end Ysshra.Bridge.SnapParse

import Ysshra.Gen.ShimOps
/-
Bridge: `(*Server).Lock`, `Unlock`, `Add` and `RemoveAll`, translated statement by statement from
shimserver.go on every run, are the corresponding cases of the model's `Shim.step` — for every
state, clock, fault schedule and argument.
-/
namespace Ysshra.Bridge.ShimOps
open Ysshra.Shim

theorem lock_bridge (s : State) (now : Nat) (f : Faults) (p : Bytes) :
    Gen.ShimOps.lock s f p = step s now f (.lock p) := by
  unfold Gen.ShimOps.lock
  simp only [step]
  cases s.locked
  · rcases UAgent.lock s.u f p with ⟨u', _ | _⟩ <;> rfl
  · rfl

theorem unlock_bridge (s : State) (now : Nat) (f : Faults) (p : Bytes) :
    Gen.ShimOps.unlock s f p = step s now f (.unlock p) := by
  unfold Gen.ShimOps.unlock
  simp only [step]
  cases s.locked
  · rfl
  · rcases UAgent.unlock s.u f p with ⟨u', _ | _⟩ <;> rfl

theorem add_bridge (s : State) (now : Nat) (f : Faults) (id : Ident) :
    Gen.ShimOps.add s f id = step s now f (.add id) := by
  unfold Gen.ShimOps.add
  simp only [step]
  cases s.locked
  · rcases UAgent.add s.u f id with ⟨u', _ | _⟩ <;> rfl
  · rfl

theorem removeAll_bridge (s : State) (now : Nat) (f : Faults) :
    Gen.ShimOps.removeAll s f = step s now f .removeAll := by
  unfold Gen.ShimOps.removeAll
  simp only [step]
  cases s.locked
  · rcases UAgent.removeAll s.u f with ⟨u', _ | _⟩ <;> rfl
  · rfl

end Ysshra.Bridge.ShimOps

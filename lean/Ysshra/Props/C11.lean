import Ysshra.Gen.Locks
import Ysshra.Lemmas.Locks
/-
C11 — concurrent shim-agent clients cannot corrupt it or get each other's replies.
Partial: the theorems are about the locking discipline regenerated from the source (which lock
each exported method takes first, that `defer` releases it, which shared cells it touches
transitively); Go's scheduler and memory model are not modelled — race-detector runs support it.
-/
namespace Ysshra
namespace C11
open Locks

/-- Mutual exclusion is an invariant of every schedule, from a state in which nobody is inside. -/
theorem excl_run (s : Sys) (sched : List Nat) (h : Excl s) : Excl (run s sched) :=
  run_induct Excl excl_moves s sched h

/-- No conflicting accesses, for every interleaving: if all methods follow the discipline, then
    in every reachable state two different threads that are both inside their bodies never have a
    write by one and any access by the other to the same cell (the connection to the underlying
    agent is cell 3: request/reply pairs on it cannot interleave). -/
theorem c11_no_conflict (s0 : Sys) (sched : List Nat) (h0 : ∀ t ∈ s0, t.phase = .waiting)
    (hd : ∀ t ∈ run s0 sched, disciplined t.method = true)
    (i j : Nat) (ti tj : Thread) (hi : (run s0 sched)[i]? = some ti) (hj : (run s0 sched)[j]? = some tj)
    (hij : i ≠ j) (hini : ti.inside = true) (hinj : tj.inside = true)
    (a b : Access) (ha : a ∈ ti.method.accesses) (hb : b ∈ tj.method.accesses)
    (hw : a.isWrite = true) : False := by
  have hex := excl_run s0 sched (excl_of_outside fun t ht => by rw [Thread.inside, h0 t ht])
  have hdi := hd ti (List.mem_of_getElem? hi)
  have hdj := hd tj (List.mem_of_getElem? hj)
  simp only [disciplined, Bool.and_eq_true, decide_eq_true_eq] at hdi hdj
  have hmi : ti.method.mode = some .excl := by
    have := hdi.1 (List.any_eq_true.2 ⟨a, ha, hw⟩); simpa using this
  have hmj : tj.method.mode.isSome = true := hdj.2 (by simpa using List.ne_nil_of_mem hb)
  have hA := Thread.holdsAny_iff.2 ⟨hinj, hmj⟩
  rw [hex i j ti tj hi hj hij (Thread.holdsExcl_iff.2 ⟨hini, hmi⟩)] at hA
  cases hA

/-- The discipline, on the method table regenerated from shimserver.go: every exported method
    that writes a shared table, the lock flag or uses the single connection takes the exclusive
    lock first and releases it by `defer`; in particular `Signers` and `Extension` (finding F7). -/
theorem c11_discipline :
    Gen.Locks.methods.all (fun m => disciplined m.2.1 && (m.2.1.mode.isSome → m.2.2)) = true := by decide

/-- the methods of the table are the thirteen operations clients can issue -/
theorem c11_methods : Gen.Locks.methods.map (·.1) =
    [c!"Close", c!"List", c!"Forward", c!"AddHardCert", c!"Sign", c!"SignWithFlags", c!"Add", c!"Remove",
     c!"RemoveAll", c!"Lock", c!"Unlock", c!"Signers", c!"Extension"] := by rfl

/-- `Signers` hands its caller objects that sign later, outside the method and its lock. Every one
    of them (regenerated from the `append`s to the returned slice) reaches the underlying agent only
    through the shim — its agent field is the `Server` itself — so that signing with it is the
    method `Sign` / `SignWithFlags` of the table above and takes the exclusive lock; none holds the
    agent client or the connection (finding F12: the client's own signers were passed on). -/
theorem c11_signers_routed :
    Gen.Locks.signerSources ≠ [] ∧ Gen.Locks.signerSources.all (·.2) = true := by decide

/-- scheduling steps a thread still needs -/
def threadWork (t : Thread) : Nat := match t.phase with
  | .waiting => t.method.accesses.length + 2
  | .running k => t.method.accesses.length + 1 - k
  | .finished => 0

def work (s : Sys) : Nat := (s.map threadWork).sum

theorem sum_set_lt {l : List Nat} {i a b : Nat} (hi : l[i]? = some a) (hb : b < a) :
    (l.set i b).sum < l.sum := by
  induction l generalizing i with
  | nil => simp at hi
  | cons x r ih =>
    cases i with
    | zero =>
      obtain rfl : x = a := by simpa using hi
      simp only [List.set_cons_zero, List.sum_cons]
      omega
    | succ n =>
      have := ih hi
      simp only [List.set_cons_succ, List.sum_cons]
      omega

theorem moves_work {s : Sys} {t t' : Thread} (hm : Moves s t t')
    (hb : ∀ k, t.phase = .running k → k ≤ t.method.accesses.length) : threadWork t' < threadWork t := by
  cases hm with
  | enter m _ => simp [threadWork]
  | access m k hk =>
    simp only [threadWork]
    omega
  | leave m k _ =>
    have := hb k rfl
    simp only [threadWork] at this ⊢
    omega

/-- the side condition of `c11_progress`; it holds in every reachable state -/
def Bounded (s : Sys) : Prop := ∀ t ∈ s, ∀ k, t.phase = .running k → k ≤ t.method.accesses.length

theorem bounded_moves (s : Sys) (i : Nat) (t t' : Thread) (h : Bounded s) (_ : s[i]? = some t)
    (hm : Moves s t t') : Bounded (s.set i t') := by
  intro u hu k hk
  rcases List.mem_or_eq_of_mem_set hu with hu | rfl
  · exact h u hu k hk
  · cases hm with
    | enter m _ =>
      cases hk
      exact Nat.zero_le _
    | access m k' hk' =>
      cases hk
      exact hk'
    | leave m k' _ => cases hk

/-- **Progress.**  In every state in which some operation has not finished, some thread can take a
    step that brings the system strictly closer to completion: no reachable state is a deadlock,
    and a fair schedule finishes every operation within `work s` steps.  (The model releases the
    lock when the body ends — `c11_discipline` checks in the regenerated method table that every
    method that takes the lock releases it by `defer`.) -/
theorem c11_progress (s : Sys) (h : ∃ t ∈ s, t.phase ≠ .finished)
    (hbound : ∀ t ∈ s, ∀ k, t.phase = .running k → k ≤ t.method.accesses.length) :
    ∃ i, work (stepThread s i) < work s := by
  suffices ∃ i t t', s[i]? = some t ∧ Moves s t t' by
    obtain ⟨i, t, t', hi, hm⟩ := this
    refine ⟨i, ?_⟩
    rw [stepThread_of_moves hi hm, work, work, List.map_set]
    exact sum_set_lt (by simp [hi]) (moves_work hm (hbound t (List.mem_of_getElem? hi)))
  by_cases hrun : ∃ (j : Nat) (m : Method) (k : Nat), s[j]? = some ⟨m, .running k⟩
  · -- somebody is inside its body: it can always go on
    obtain ⟨j, m, k, hj⟩ := hrun
    by_cases hk : k < m.accesses.length
    · exact ⟨j, _, _, hj, .access m k hk⟩
    · exact ⟨j, _, _, hj, .leave m k hk⟩
  · -- nobody is inside: nobody holds the lock, so any waiting thread may enter
    have hnone : ∀ u ∈ s, u.inside = false := by
      intro ⟨m, ph⟩ hu
      obtain ⟨j, hj⟩ := List.mem_iff_getElem?.mp hu
      cases ph with
      | running k => exact absurd ⟨j, m, k, hj⟩ hrun
      | _ => rfl
    obtain ⟨⟨m, ph⟩, ht, hnf⟩ := h
    obtain ⟨j, hj⟩ := List.mem_iff_getElem?.mp ht
    cases ph with
    | finished => exact absurd rfl hnf
    | running k => exact absurd ⟨j, m, k, hj⟩ hrun
    | waiting => exact ⟨j, _, _, hj, .enter m (canEnter_of_outside m hnone)⟩

/-- … so: from a state in which no operation has started, after any schedule, if something is
    unfinished then some thread can make progress. -/
theorem c11_no_deadlock (s0 : Sys) (sched : List Nat) (h0 : ∀ t ∈ s0, t.phase = .waiting)
    (h : ∃ t ∈ run s0 sched, t.phase ≠ .finished) :
    ∃ i, work (stepThread (run s0 sched) i) < work (run s0 sched) :=
  c11_progress _ h (run_induct Bounded bounded_moves s0 sched fun t ht k hk => by
    rw [h0 t ht] at hk
    cases hk)

/-- Non-vacuity: two writers and a reader under some schedule, ending with the first writer inside,
    the reader blocked behind it and the second writer done. -/
example :
    let w : Method := ⟨some .excl, [.write 0, .write 3]⟩
    let r : Method := ⟨some .shared, [.read 0]⟩
    let s := run [⟨w, .waiting⟩, ⟨r, .waiting⟩, ⟨w, .waiting⟩] [2, 0, 1, 2, 2, 2, 0, 1]
    (s.map (·.phase)) = [.running 0, .waiting, .finished] := by decide

end C11
end Ysshra

import Ysshra.Lemmas.Message
import Ysshra.Lemmas.Text
/-
The legacy (space-separated `key=value`) message format.  The format is shown to round-trip on any
association list with distinct printable keys; `MarshalLegacy` writes a fixed table of rows with
the rows for zero values left out, and each field `UnmarshalLegacy` reads is one look-up in it.
-/
namespace Ysshra
open Text

/-- With the head's share appended, a filtered literal list stays a concatenation, which is how
    `legacyTokens` is written; `List.filter_cons` nests the `if`s instead. -/
theorem filter_cons_append {α} (p : α → Bool) (x : α) (l : List α) :
    (x :: l).filter p = (if p x then [x] else []) ++ l.filter p := by
  cases h : p x <;> simp [h]

namespace C15

/-- the touchless-sudo value the legacy decoder always fills in; `Spec.C15.tsOrZero`, which the
    executable statement compares with, is the same function -/
def tsOrZero (t : Option (TSudo Bytes)) : TSudo Bytes := match t with
  | some t => t
  | none => ⟨false, [], 0⟩

end C15

namespace Message
open C15

/-- the token `MarshalLegacy` writes for a pair -/
def kv (p : Bytes × Bytes) : Bytes := p.1 ++ 0x3d :: p.2

/-- a key the format can carry -/
def KeyOK (k : Bytes) : Prop := (∀ c ∈ k, Printable c) ∧ 0x3d ∉ k

instance (k : Bytes) : Decidable (KeyOK k) := by unfold KeyOK; infer_instance

theorem parseToken_kv (p : Bytes × Bytes) (hk : 0x3d ∉ p.1) : parseToken (kv p) = p := by
  unfold parseToken kv
  rw [cutAt_append _ hk]

theorem noSp_kv (p : Bytes × Bytes) (hk : ∀ c ∈ p.1, Printable c) (hv : NoSp p.2) : NoSp (kv p) :=
  noSp_join (by decide) (noSp_of_printable hk) hv

theorem trimSpace_kv (p : Bytes × Bytes) (hk : ∀ c ∈ p.1, Printable c) (hv : NoSp p.2) :
    trimSpace (kv p) = kv p := by
  apply trimSpace_id
  · obtain ⟨k, v⟩ := p
    -- the token starts with the key's first byte, or with `=` when the key is empty
    cases k with
    | nil => exact stripSpacePrefix_printable (by decide)
    | cons c k' => exact stripSpacePrefix_printable (hk c (by simp))
  · exact (stripSpaceSuffix_none_iff _).2 (noSp_kv p hk hv).2

theorem parseAttrsLegacy_join_kv (m : List (Bytes × Bytes))
    (hk : ∀ p ∈ m, KeyOK p.1) (hv : ∀ p ∈ m, NoSp p.2) (hnd : (m.map (·.1)).Nodup) :
    parseAttrsLegacy (joinWith 0x20 (m.map kv)) = m := by
  by_cases hne : m = []
  · subst hne
    rfl
  have hsp : ∀ x ∈ m.map kv, 0x20 ∉ x := by
    intro x hx
    obtain ⟨p, hp, rfl⟩ := List.mem_map.1 hx
    exact (noSp_kv p (hk p hp).1 (hv p hp)).1
  unfold parseAttrsLegacy
  rw [splitOn_joinWith 0x20 _ (by simpa using hne) hsp, List.foldl_map]
  refine Eq.trans ?_ (foldl_mapSet_nodup m [] (by simpa using hnd))
  -- each step of the decoder's loop is `mapSet` of the pair itself
  refine List.foldl_rel (r := Eq) rfl fun p hp acc _ e => ?_
  have hne' : (kv p).isEmpty = false := List.isEmpty_eq_false_iff.2 (by simp [kv])
  simp only [e, trimSpace_kv p (hk p hp).1 (hv p hp), hne', parseToken_kv p (hk p hp).2,
    Bool.false_eq_true, ↓reduceIte]

theorem map_parseToken_kv (m : List (Bytes × Bytes)) (hk : ∀ p ∈ m, KeyOK p.1) :
    (m.map kv).map parseToken = m := by
  rw [List.map_map]
  exact (List.map_congr_left fun p hp => parseToken_kv p (hk p hp).2).trans (List.map_id _)

/-! A table of (present?, key, value) rows with the absent rows left out: a look-up of a row's key
gives its value or nothing, with no case split over the other rows. -/

def present {K V} (t : List (Bool × K × V)) : List (K × V) := (t.filter (·.1)).map (·.2)

theorem present_sublist {K V} (t : List (Bool × K × V)) : (present t).Sublist (t.map (·.2)) :=
  List.filter_sublist.map _

theorem forall_present {K V} {t : List (Bool × K × V)} {P : K × V → Prop} (h : ∀ r ∈ t, P r.2) :
    ∀ p ∈ present t, P p := by
  intro p hp
  obtain ⟨r, hr, rfl⟩ := List.mem_map.1 ((present_sublist t).subset hp)
  exact h r hr

theorem present_keys_sublist {K V} (t : List (Bool × K × V)) :
    ((present t).map (·.1)).Sublist (t.map (·.2.1)) := by
  have := (present_sublist t).map (·.1)
  rwa [List.map_map] at this

theorem lookupB_none {m : List (Bytes × Bytes)} {k : Bytes} (h : k ∉ m.map (·.1)) :
    lookupB m k = none := by
  unfold lookupB
  rw [List.find?_eq_none.2 fun p hp => by
    simp only [decide_eq_true_eq]
    rintro rfl
    exact h (List.mem_map_of_mem hp)]
  rfl

theorem lookupB_present (t : List (Bool × Bytes × Bytes)) (hnd : (t.map (·.2.1)).Nodup)
    {b : Bool} {k v : Bytes} (h : (b, k, v) ∈ t) :
    lookupB (present t) k = if b then some v else none := by
  induction t with
  | nil => cases h
  | cons r t ih =>
    obtain ⟨hr, hnd⟩ := List.nodup_cons.1 hnd
    have hkeys := (present_keys_sublist t).subset
    rcases List.mem_cons.1 h with rfl | h
    · -- the row itself: found first if present; otherwise its key is in no later row
      cases b
      · simpa [present] using lookupB_none fun hm => hr (hkeys hm)
      · simp [present, lookupB]
    · -- a later row: the head row has another key and is passed over
      have hk : r.2.1 ≠ k := by
        rintro rfl
        exact hr (List.mem_map_of_mem (f := (·.2.1)) h)
      rw [← ih hnd h]
      obtain ⟨b', k', v'⟩ := r
      cases b' <;> simp [present, lookupB, hk]

/-- Row for row what `MarshalLegacy` appends; an absent touchless-sudo block writes what a zero
    block writes, nothing. -/
def legacyRows (a : AttrsB) : List (Bool × Bytes × Bytes) :=
  let t := tsOrZero a.TouchlessSudo
  [(true, kIFVer, b!"6"), (true, kVersion, a.SSHClientVersion),
   (true, kReq, a.Username ++ 0x40 :: a.Hostname),
   (a.HardKey, kHardKey, b!"true"), (a.Touch2SSH, kTouch2SSH, b!"true"),
   (t.IsFirefighter, kIsFirefighter, b!"true"), (!t.Hosts.isEmpty, kHosts, t.Hosts),
   (t.Time != 0, kTime, intDec t.Time)]

def legacyPairs (a : AttrsB) : List (Bytes × Bytes) := present (legacyRows a)

theorem legacyTokens_eq (a : AttrsB) : legacyTokens a = (legacyPairs a).map kv := by
  unfold legacyTokens legacyPairs present legacyRows
  cases a.TouchlessSudo <;>
    simp [filter_cons_append, tsOrZero, kv, apply_ite (List.map _), legacyInterfaceVersion, kIFVer]

/-- the key column of `legacyRows a`, for every `a` (by `rfl`: the facts below are used of that column) -/
def legacyKeys : List Bytes :=
  [kIFVer, kVersion, kReq, kHardKey, kTouch2SSH, kIsFirefighter, kHosts, kTime]

theorem legacyKeys_nodup : legacyKeys.Nodup := by decide

theorem legacyKeys_keyOK : ∀ k ∈ legacyKeys, KeyOK k := by decide

theorem legacyPairs_keyOK (a : AttrsB) : ∀ p ∈ legacyPairs a, KeyOK p.1 :=
  forall_present fun _ hr => legacyKeys_keyOK _ (List.mem_map_of_mem (f := (·.2.1)) hr)

theorem lookupB_legacyPairs (a : AttrsB) :
    ∀ r ∈ legacyRows a, lookupB (legacyPairs a) r.2.1 = if r.1 then some r.2.2 else none :=
  fun _ hr => lookupB_present (legacyRows a) legacyKeys_nodup hr

theorem legacyTokens_parse (a : AttrsB) : (legacyTokens a).map parseToken = legacyPairs a := by
  rw [legacyTokens_eq, map_parseToken_kv _ (legacyPairs_keyOK a)]

theorem parse_marshalLegacy (a : AttrsB) (hv : NoSp a.SSHClientVersion) (hu : NoSp a.Username)
    (hh : NoSp a.Hostname) (hts : ∀ t, a.TouchlessSudo = some t → NoSp t.Hosts) :
    parseAttrsLegacy (marshalLegacy a) = legacyPairs a := by
  have hvals : ∀ r ∈ legacyRows a, NoSp r.2.2 := by
    have hho : NoSp (tsOrZero a.TouchlessSudo).Hosts := by
      cases h : a.TouchlessSudo with
      | none => exact noSp_nil
      | some t => exact hts t h
    have h6 : NoSp b!"6" := noSp_of_printable (by decide)
    have ht : NoSp b!"true" := noSp_of_printable (by decide)
    simp only [legacyRows, List.forall_mem_cons]
    exact ⟨h6, hv, noSp_join (by decide) hu hh, ht, ht, ht, hho, noSp_intDec _, nofun⟩
  unfold marshalLegacy
  rw [legacyTokens_eq]
  exact parseAttrsLegacy_join_kv _ (legacyPairs_keyOK a) (forall_present hvals)
    ((present_keys_sublist _).nodup legacyKeys_nodup)

/-! a row is left out exactly when its value is the zero value, which is what an absent key reads as -/

theorem read_flag (b : Bool) : (if b then some b!"true" else none).elim false parseBoolLoose = b := by
  cases b <;> decide

theorem read_text (v : Bytes) : (if !v.isEmpty then some v else none).getD [] = v := by
  cases v <;> rfl

theorem read_int (i : Int) (h : inI64 i) :
    (if i != 0 then some (intDec i) else none).elim 0 parseIntLoose = i := by
  by_cases hi : i = 0
  · simp [hi]
  · simp [hi, parseIntLoose_intDec i h]

theorem unmarshalLegacy_ok (raw u h : Bytes)
    (hreq : (lookupB (parseAttrsLegacy raw) kReq).map (splitOn 0x40) = some [u, h]) :
    unmarshalLegacy raw =
      let get := lookupB (parseAttrsLegacy raw)
      .ok ⟨(get kIFVer).elim 0 parseIntLoose, u, h, (get kVersion).getD [], 0, 0,
           (get kHardKey).elim false parseBoolLoose, (get kTouch2SSH).elim false parseBoolLoose,
           some ⟨(get kIsFirefighter).elim false parseBoolLoose, (get kHosts).getD [],
                 (get kTime).elim 0 parseIntLoose⟩, parseAttrsLegacy raw⟩ := by
  unfold unmarshalLegacy
  dsimp only
  cases hr : lookupB (parseAttrsLegacy raw) kReq with
  | none => simp [hr] at hreq
  | some req =>
    simp only [hr, Option.map_some, Option.some.injEq] at hreq
    simp only [hreq, Res.ok.injEq, Attrs.mk.injEq, TSudo.mk.injEq, Option.some.injEq, true_and, and_true]
    -- field by field: the model's `match` on a look-up is `Option.elim` / `getD`
    refine ⟨?_, ?_, ?_, ?_, ?_, ?_, ?_⟩
    all_goals cases lookupB (parseAttrsLegacy raw) _ <;> rfl

end Message
end Ysshra

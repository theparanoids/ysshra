import Ysshra.Lemmas.ShimSync
import Ysshra.Lemmas.ShimVisible
/-
C07 — the shim agent never lists or signs with expired, premature or keyless certificates.
-/
namespace Ysshra
namespace C07
open Shim

/-- the validity test, with the clamp of 64-bit values above MaxInt64 -/
theorem c07_validAt_iff (c : Cert) (now : Nat) :
    validAt c now = true ↔ min c.validAfter maxInt64 ≤ now ∧ now ≤ min c.validBefore maxInt64 := by
  unfold validAt
  simp only [Bool.not_eq_true', Bool.or_eq_false_iff, decide_eq_false_iff_not, Nat.not_lt]

/-- Certificates with unlimited validity (0 … 2^64-1, "forever") never expire: valid at every
    time a signed 64-bit clock can show. -/
theorem c07_forever (c : Cert) (now : Nat) (ha : c.validAfter = 0) (hb : c.validBefore = 2 ^ 64 - 1)
    (hn : now ≤ maxInt64) : validAt c now = true := by
  rw [c07_validAt_iff, ha, hb]
  have : min (2 ^ 64 - 1) maxInt64 = maxInt64 := by decide
  rw [this]; exact ⟨by simp, hn⟩

/-- … while a window that starts beyond MaxInt64 is never open. -/
theorem c07_clamp (c : Cert) (now : Nat) (ha : c.validAfter > maxInt64) (hn : now < maxInt64) :
    validAt c now = false := by
  have : ¬ (validAt c now = true) := by
    rw [c07_validAt_iff]; intro h
    have : min c.validAfter maxInt64 = maxInt64 := Nat.min_eq_right (Nat.le_of_lt ha)
    omega
  simpa using this

/-- An empty listing (a possibly locked agent) drops nothing as orphan. -/
theorem c07_empty_listing (s : State) (f : Faults) (arr : List Ident) :
    filterOrphans s f ⟨arr, 0⟩ = (s, ⟨arr, 0⟩) := by
  simp [filterOrphans]

/-- Whatever preceded it, after `filter` got a listing from the underlying agent: every in-memory
    certificate is inside its validity window, and — when the listing was non-empty — its public
    key is among the listed keys.  (Any state `s`: so after every history.) -/
theorem c07_memory_purged (s : State) (now : Nat) (f : Faults) (keys : List Ident) (u1 : UAgent)
    (hl : s.u.list f = (u1, some keys)) :
    (∀ mc ∈ (filter s now f).1.certs, validAt mc.cert now = true) ∧
    (keys ≠ [] → ∀ mc ∈ (filter s now f).1.certs, mc.cert.key ∈ keys.map (·.blob.pub)) := by
  obtain ⟨s1, ka1, s2, ka2, err, s3, ka3, h1, -, h3, h4, -, r2, r3⟩ := filter_spec s now f hl
  rw [h4]
  constructor
  · have := expiredInMemory_complete now f s2 ka2
    rwa [h3] at this
  · -- the orphan pass leaves only keyed certificates, and the later passes only shrink the table
    intro hne mc hmc
    have hk := filterOrphans_complete { s with u := u1 } f ⟨keys, keys.length⟩ (by simpa using hne)
    rw [h1, KeyArr.live_full] at hk
    exact hk mc ((r2.trans r3).shrinks.certs mc hmc)

/-- A failing listing touches nothing. -/
theorem c07_list_failure (s : State) (now : Nat) (f : Faults) (u1 : UAgent) (hl : s.u.list f = (u1, none)) :
    filter s now f = ({ s with u := u1 }, none) := filter_none s now f hl

/-- **No listing contains a certificate outside its validity window — the underlying agent's
    half.**  Whatever the state, the clock and the faults: if `filter` succeeds, every certificate in
    the key list it returns (the underlying agent's identities, after the orphan pass, the in-agent
    expiry pass with its swap-removing `remove` closure over the live backing array, and the
    in-memory pass) is inside its validity window, the list has pairwise different blobs, and
    every entry was in the underlying agent's listing.  (`uniq`: the keyring never lists two
    identities with the same public blob.) -/
theorem c07_listing_valid (s : State) (now : Nat) (f : Faults) (listing keys : List Ident) (u1 : UAgent) (s' : State)
    (hl : s.u.list f = (u1, some listing)) (uniq : Distinct listing)
    (hf : filter s now f = (s', some keys)) :
    AllValid now keys ∧ Distinct keys ∧ ∀ x ∈ keys, x ∈ listing := by
  obtain ⟨s1, ka1, s2, ka2, err, s3, ka3, -, h2, -, h4, r1, r2, r3⟩ := filter_spec s now f hl
  rw [hf] at h4
  cases err with
  | true => simp at h4
  | false =>
    obtain ⟨-, rfl⟩ : s' = s3 ∧ keys = ka3.live := by simpa using h4
    have g0 : Good listing (⟨listing, listing.length⟩ : KeyArr) :=
      ⟨Nat.le_refl _, by simpa using uniq, by simp⟩
    have g1 : Good listing ka1 := r1.good g0
    have g2 : Good listing ka2 := r2.good g1
    have hloop := expiredInAgent_allValid g1.wf g1.distinct h2
    -- the in-memory pass only takes entries away from what the in-agent pass left
    have g3 : Good ka2.live ka3 := r3.good ⟨g2.wf, g2.distinct, fun _ h => h⟩
    exact ⟨fun x hx => hloop x (g3.sub x hx), g3.distinct, fun x hx => g2.sub x (g3.sub x hx)⟩

/-- **C07, as the client sees it.**  Whatever sequence of operations led to state `s`, whatever the
    clock and the faults: a listing the shim agent returns contains no certificate outside its
    validity window — neither among the in-memory hardware certificates nor among the identities
    of the underlying agent.  (`uniq`: what the underlying agent lists has pairwise different
    blobs.) -/
theorem c07_list_output_valid (s : State) (now : Nat) (f : Faults) (s' : State) (ids : List Ident)
    (uniq : ∀ u1 listing, s.u.list f = (u1, some listing) → Distinct listing)
    (h : step s now f .list = (s', .listing ids)) :
    ∀ id ∈ ids, ∀ c, id.blob = .cert c → validAt c now = true := by
  simp only [step] at h
  split at h
  · obtain ⟨-, rfl⟩ : s = s' ∧ [] = ids := by simpa using h
    intro id hid
    cases hid
  · rcases hl : s.u.list f with ⟨u1, _ | listing⟩
    · rw [filter_none s now f hl] at h
      simp at h
    · rcases hf : filter s now f with ⟨s1, _ | keys⟩
      · rw [hf] at h
        simp at h
      · rw [hf] at h
        obtain ⟨-, rfl⟩ : _ ∧ _ = ids := by simpa using h
        have hkeys := (c07_listing_valid s now f listing keys u1 s1 hl (uniq u1 listing hl) hf).1
        have hmem := (c07_memory_purged s now f listing u1 hl).1
        rw [hf] at hmem
        intro id hid c hc
        rcases List.mem_append.mp hid with hm | hv
        · obtain ⟨mc, hmc, rfl⟩ := List.mem_map.1 hm
          cases hc
          exact hmem mc hmc
        · obtain ⟨id0, h0, e⟩ := listVisible_blobs s1 keys id hv
          exact hkeys id0 h0 c (by rw [← e]; exact hc)

/-- **Purged from both.**  With an underlying agent that answers (open, unlocked, no faults during
    this operation): after a successful `filter` the underlying agent itself holds no certificate
    outside its validity window any more, and holds exactly the identities of the returned list. -/
theorem c07_purged_from_agent (s : State) (now : Nat) (s' : State) (keys : List Ident)
    (hopen : s.u.closed = false) (hunl : s.u.locked = false) (uniq : Distinct s.u.idents)
    (hf : filter s now noFaults = (s', some keys)) :
    (∀ x, x ∈ s'.u.idents ↔ x ∈ keys) ∧
    ∀ x ∈ s'.u.idents, ∀ c, x.blob = .cert c → validAt c now = true := by
  have hl := UAgent.list_noFaults s.u hopen hunl
  have hvalid := (c07_listing_valid s now noFaults s.u.idents keys s.u s' hl uniq hf).1
  obtain ⟨ka, hr, hks⟩ := filter_removes s now noFaults hl
  rw [hf] at hr hks
  obtain rfl := hks keys rfl
  have hsync := hr.sync ⟨hopen, hunl, Nat.le_refl _, by simpa using uniq, by simp⟩
  exact ⟨hsync.same, fun x hx => hvalid x ((hsync.same x).1 hx)⟩

/-- **A signing request naming a purged certificate fails.**  With an underlying agent that answers
    (open, unlocked, no faults during this operation), signing with a certificate that is outside its
    validity window at the time of the request never yields a signature — wherever the certificate
    was held. -/
theorem c07_sign_purged_fails (s : State) (now : Nat) (c : Cert) (hinv : validAt c now = false)
    (hopen : s.u.closed = false) (hunl : s.u.locked = false) (uniq : Distinct s.u.idents) :
    ∀ k, (step s now noFaults (.sign (.cert c))).2 ≠ .signed (.ok k) := by
  intro k
  by_cases hl : s.locked = true
  · simp [step, hl]
  · rcases hf : filter s now noFaults with ⟨s', _ | keys⟩
    · simp [step, hl, hf]
    · rw [step_sign_cert s now noFaults c (by simpa using hl) (by rw [hf]), hf]
      have hmem := (c07_memory_purged s now noFaults s.u.idents s.u (UAgent.list_noFaults s.u hopen hunl)).1
      rw [hf] at hmem
      have hnm : hasCert s' c = false := by
        refine Bool.eq_false_iff.2 fun h => ?_
        obtain ⟨mc, hmc, rfl⟩ := hasCert_iff.1 h
        rw [hmem mc hmc] at hinv
        cases hinv
      simp only [hnm, Bool.false_eq_true, ↓reduceIte]
      split
      · simp
      · -- not in the underlying agent any more
        intro hs
        obtain ⟨x, hx, hxb⟩ := mem_of_any_blob _ _ (signOut_ok hs).2
        rw [(c07_purged_from_agent s now s' keys hopen hunl uniq hf).2 x hx c hxb] at hinv
        cases hinv

/-- Non-vacuity, on the pattern that makes swap-removal delicate: three expired certificates and one
    valid one, the expired ones first, last and adjacent — the listing that comes back is exactly
    the valid certificate and the key. -/
example :
    let e1 : Cert := ⟨1, 1, 10, 20, false, none⟩
    let e2 : Cert := ⟨2, 1, 10, 20, false, none⟩
    let e3 : Cert := ⟨3, 1, 10, 20, false, none⟩
    let v : Cert := ⟨4, 1, 10, 2000, false, none⟩
    let ids : List Ident := [⟨.cert e1, []⟩, ⟨.key 1, []⟩, ⟨.cert v, []⟩, ⟨.cert e2, []⟩, ⟨.cert e3, []⟩]
    let s : State := ⟨[], [], false, false, ⟨ids, false, [], false⟩⟩
    (filter s 100 noFaults).2 = some [⟨.cert v, []⟩, ⟨.key 1, []⟩] ∨
    (filter s 100 noFaults).2 = some [⟨.key 1, []⟩, ⟨.cert v, []⟩] := by decide

end C07
end Ysshra

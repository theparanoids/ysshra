import Ysshra.Lemmas.Legacy
import Ysshra.Spec.C15
/-
C15 — client request messages round-trip through both wire formats.
-/
namespace Ysshra
namespace C15
open Message Text

/-- The encoder refuses attribute sets missing a required field. -/
theorem c15_marshal_refuses (utf8 : Str → Bytes) (a : AttrsJ)
    (h : a.SSHClientVersion = [] ∨ a.Username = [] ∨ a.Hostname = []) : marshal utf8 a = none := by
  simp [marshal, (sane_eq_false_iff a).2 h]

/-- … and accepts every other one, choosing the format by the interface version. -/
theorem c15_marshal_accepts (utf8 : Str → Bytes) (a : AttrsJ)
    (h1 : a.SSHClientVersion ≠ []) (h2 : a.Username ≠ []) (h3 : a.Hostname ≠ []) :
    marshal utf8 a =
      if a.IfVer < 7 then some (.legacy (marshalLegacy (toB utf8 a))) else some (.json (toJ a)) := by
  simp [marshal, sane, h1, h2, h3]

/-- JSON format: decoding the encoded attributes gives them back, all fields including the
    extension map (token trees), with the absent touchless-sudo block populated. -/
theorem c15_json_roundtrip (a : AttrsJ) (wf : WF a) (hs : sane List.isEmpty a = true) (raw : Bytes) :
    unmarshal (some (toJ a)) raw = .ok (.json (populate [] a)) := by
  simp only [unmarshal, decodeStruct_toJ a wf, hs, ↓reduceIte]

/-- Input that decodes as a JSON attribute object is never reinterpreted as legacy text: the
    result is decided by the JSON branch alone, whatever the raw bytes are, and it fails exactly
    when a required member is empty (the encoder's own check). -/
theorem c15_no_reinterpretation (tok : Option JVal) (raw : Bytes) (a : AttrsJ)
    (h : decodeStruct tok = some a) :
    unmarshal tok raw =
      if a.SSHClientVersion = [] ∨ a.Username = [] ∨ a.Hostname = [] then .err
      else .ok (.json (populate [] a)) := by
  simp only [unmarshal, h, ← sane_eq_false_iff]
  cases sane List.isEmpty a <;> rfl

/-- The decoder never crashes (with the repaired call for finding F1). -/
theorem c15_total (tok : Option JVal) (raw : Bytes) : unmarshal tok raw ≠ .crash :=
  unmarshal_ne_crash tok raw

/-- **Legacy format round trip.**  For every attribute set whose client version, user, host and
    touchless-sudo hosts hold no space byte and do not end in white space (implied by "free of
    white space"), whose user and host hold no `@`, and whose touchless-sudo time is a machine
    integer: decoding what `MarshalLegacy` wrote gives back the client version, user, host,
    hardware-key, touch-to-SSH and touchless-sudo fields, reports interface version 6, leaves the
    fields the format does not carry at zero, and mirrors the raw tokens into the extension map. -/
theorem c15_legacy_roundtrip (a : AttrsB)
    (hv : NoSp a.SSHClientVersion) (hu : NoSp a.Username) (hh : NoSp a.Hostname)
    (hua : 0x40 ∉ a.Username) (hha : 0x40 ∉ a.Hostname)
    (hts : ∀ t, a.TouchlessSudo = some t → NoSp t.Hosts ∧ (-(2 ^ 63 : Int) ≤ t.Time ∧ t.Time < 2 ^ 63)) :
    unmarshalLegacy (marshalLegacy a) =
      .ok ⟨6, a.Username, a.Hostname, a.SSHClientVersion, 0, 0, a.HardKey, a.Touch2SSH,
           some (tsOrZero a.TouchlessSudo), (legacyTokens a).map parseToken⟩ := by
  have hm := parse_marshalLegacy a hv hu hh (fun t ht => (hts t ht).1)
  have hsplit : splitOn 0x40 (a.Username ++ 0x40 :: a.Hostname) = [a.Username, a.Hostname] := by
    rw [splitOn_field _ hua, splitOn_single hha]
  have htime : inI64 (tsOrZero a.TouchlessSudo).Time := by
    cases h : a.TouchlessSudo with
    | none => exact ⟨by decide, by decide⟩
    | some t => exact (hts t h).2
  -- one equation per row of the table
  have get := lookupB_legacyPairs a
  simp only [legacyRows, List.forall_mem_cons] at get
  rw [unmarshalLegacy_ok _ a.Username a.Hostname (by simp [hm, get, hsplit]), legacyTokens_parse]
  simp only [hm, get, read_flag, read_text, read_int _ htime]
  rfl

/-! "free of white space and `@`", as the executable statement (`Spec.C15`) spells it, implies the
hypotheses of `c15_legacy_roundtrip` -/

theorem noSp_of_hasSpace_go (n : Nat) (s : Bytes) (h : Spec.C15.hasSpace.go n s = false) (hn : s.length ≤ n) :
    NoSp s := by
  induction n generalizing s with
  | zero =>
    obtain rfl := List.eq_nil_of_length_eq_zero (Nat.le_zero.1 hn)
    exact noSp_nil
  | succ m ih =>
    cases s with
    | nil => exact noSp_nil
    | cons c r =>
      unfold Spec.C15.hasSpace.go at h
      simp only [Bool.or_eq_false_iff, Option.isSome_eq_false_iff, Option.isNone_iff_eq_none] at h
      exact noSp_cons h.1 (ih r h.2 (by simp at hn; omega))

theorem noSp_of_hasSpace {v : Bytes} (h : Spec.C15.hasSpace v = false) : NoSp v :=
  noSp_of_hasSpace_go _ v h (Nat.le_refl _)

theorem hasSpaceOrAt_go_false (n : Nat) (s : Bytes) (h : Spec.C15.hasSpaceOrAt.go n s = false) (hn : s.length ≤ n) :
    Spec.C15.hasSpace.go n s = false ∧ 0x40 ∉ s := by
  induction n generalizing s with
  | zero =>
    obtain rfl := List.eq_nil_of_length_eq_zero (Nat.le_zero.1 hn)
    simp [Spec.C15.hasSpace.go]
  | succ m ih =>
    cases s with
    | nil => simp [Spec.C15.hasSpace.go]
    | cons c r =>
      unfold Spec.C15.hasSpaceOrAt.go at h
      simp only [Bool.or_eq_false_iff, decide_eq_false_iff_not] at h
      obtain ⟨⟨h1, h2⟩, h3⟩ := h
      obtain ⟨i1, i2⟩ := ih r h3 (by simp at hn; omega)
      refine ⟨?_, ?_⟩
      · unfold Spec.C15.hasSpace.go; simp [h2, i1]
      · simp only [List.mem_cons, not_or]; exact ⟨fun e => h1 e.symm, i2⟩

theorem noSp_of_hasSpaceOrAt {v : Bytes} (h : Spec.C15.hasSpaceOrAt v = false) : NoSp v ∧ 0x40 ∉ v := by
  obtain ⟨h1, h2⟩ := hasSpaceOrAt_go_false _ v h (Nat.le_refl _)
  exact ⟨noSp_of_hasSpace h1, h2⟩

/-- The statement's form: for all values free of white space (user and host also free of `@`). -/
theorem c15_legacy_roundtrip_clean (a : AttrsB)
    (hv : Spec.C15.hasSpace a.SSHClientVersion = false)
    (hu : Spec.C15.hasSpaceOrAt a.Username = false) (hh : Spec.C15.hasSpaceOrAt a.Hostname = false)
    (hts : ∀ t, a.TouchlessSudo = some t →
      Spec.C15.hasSpace t.Hosts = false ∧ (-(2 ^ 63 : Int) ≤ t.Time ∧ t.Time < 2 ^ 63)) :
    unmarshalLegacy (marshalLegacy a) =
      .ok ⟨6, a.Username, a.Hostname, a.SSHClientVersion, 0, 0, a.HardKey, a.Touch2SSH,
           some (tsOrZero a.TouchlessSudo), (legacyTokens a).map parseToken⟩ := by
  obtain ⟨hu, hua⟩ := noSp_of_hasSpaceOrAt hu
  obtain ⟨hh, hha⟩ := noSp_of_hasSpaceOrAt hh
  exact c15_legacy_roundtrip a (noSp_of_hasSpace hv) hu hh hua hha
    (fun t ht => ⟨noSp_of_hasSpace (hts t ht).1, (hts t ht).2⟩)

/-- Non-vacuity: a concrete attribute set meets the hypotheses and round-trips. -/
example :
    let a : AttrsB := ⟨3, b!"alice", b!"host-1.example.com", b!"8.1", 0, 0, true, false,
      some ⟨true, b!"h1,h2", -30⟩, []⟩
    Spec.C15.hasSpace a.SSHClientVersion = false ∧ Spec.C15.hasSpaceOrAt a.Username = false ∧
    (unmarshalLegacy (marshalLegacy a)) =
      .ok ⟨6, b!"alice", b!"host-1.example.com", b!"8.1", 0, 0, true, false, some ⟨true, b!"h1,h2", -30⟩,
        (legacyTokens a).map parseToken⟩ := by decide

end C15
end Ysshra

import Ysshra.Model.Crypki
/-
The fail-over loop of `Crypki.sign` in one statement (`signLoop_spec`), what a parsed reply holds,
and what an answer through TLS presupposes.
-/
namespace Ysshra.Crypki
open Ysshra

variable {E : Type}

theorem keysFromLines_eq_some {ls : List Line} {ks : List Nat} {cs : List Bytes} :
    keysFromLines ls = some (ks, cs) ↔
      ls.filterMap id ≠ [] ∧ ks = (ls.filterMap id).map (·.1) ∧ cs = (ls.filterMap id).map (·.2) := by
  rw [keysFromLines, eq_comm (a := ks), eq_comm (a := cs)]
  cases ls.filterMap id <;> simp

theorem signLoop_spec (reply : E → Reply) (eps : List E) :
    (∃ pre e rest x, eps = pre ++ e :: rest ∧ (∀ e' ∈ pre, post (reply e') = none) ∧
        post (reply e) = some x ∧ signLoop reply eps = (some x, pre ++ [e])) ∨
    ((∀ e ∈ eps, post (reply e) = none) ∧ signLoop reply eps = (none, eps)) := by
  induction eps with
  | nil => exact .inr ⟨nofun, rfl⟩
  | cons e r ih =>
    unfold signLoop
    cases hp : post (reply e) with
    | some x => exact .inl ⟨[], e, r, x, rfl, nofun, hp, rfl⟩
    | none =>
      have hcons : ∀ pre : List E, (∀ e' ∈ pre, post (reply e') = none) → ∀ e' ∈ e :: pre, post (reply e') = none :=
        fun pre h e' he' => (List.mem_cons.1 he').elim (· ▸ hp) (h e')
      rcases ih with ⟨pre, e1, rest, x, rfl, hpre, hx, hl⟩ | ⟨hall, hl⟩
      · rw [hl]
        exact .inl ⟨e :: pre, e1, rest, x, rfl, hcons pre hpre, hx, rfl⟩
      · rw [hl]
        exact .inr ⟨hcons r hall, rfl⟩

theorem signLoop_skip (reply : E → Reply) (pre r : List E) (h : ∀ e ∈ pre, post (reply e) = none) :
    signLoop reply (pre ++ r) = ((signLoop reply r).1, pre ++ (signLoop reply r).2) := by
  induction pre with
  | nil => rfl
  | cons e p ih =>
    rw [List.cons_append, signLoop, h e (List.mem_cons_self ..), ih fun e' he' => h e' (List.mem_cons_of_mem _ he')]
    rfl

/-- In the model the loop over no endpoint already ends in `none`, so the guard of `Sign` changes
    nothing here.  In the Go code it does: falling out of an empty loop returns a nil error (finding
    F8); that the guard is there is what `Bridge.Crypki.sign_bridge` checks. -/
theorem sign_eq_signLoop (reply : E → Reply) (eps : List E) : sign reply eps = signLoop reply eps := by
  cases eps <;> rfl

theorem post_tlsReply (c : TlsCfg) (s : Server) (r : Reply) (x : List Nat × List Bytes) :
    post (tlsReply c s r) = some x ↔
      clientAccepts c s = true ∧ s.acceptsClient = true ∧ post r = some x := by
  rw [tlsReply, ← and_assoc, ← Bool.and_eq_true]
  cases clientAccepts c s && s.acceptsClient <;> simp [post]

end Ysshra.Crypki

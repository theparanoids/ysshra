import Ysshra.Model.Attest
/-
`Attest.modByte`: every byte becomes two letters of the ModHex alphabet, and different bytes become
different pairs.
-/
namespace Ysshra.Attest
open Ysshra

/-- all that the lemmas below need of the alphabet: sixteen letters, no two alike -/
theorem modHexMap_length : modHexMap.length = 16 := rfl

theorem modHexMap_nodup : modHexMap.Nodup := by decide

theorem hiNibble_lt (b : UInt8) : b.toNat / 16 < modHexMap.length := by
  have := b.toNat_lt
  rw [modHexMap_length]
  omega

theorem loNibble_lt (b : UInt8) : b.toNat % 16 < modHexMap.length := by
  rw [modHexMap_length]
  omega

theorem modByte_eq (b : UInt8) :
    modByte b = [modHexMap[b.toNat / 16]'(hiNibble_lt b), modHexMap[b.toNat % 16]'(loNibble_lt b)] := by
  simp only [modByte, modNibble, List.getElem?_eq_getElem (hiNibble_lt b), List.getElem?_eq_getElem (loNibble_lt b)]

theorem modByte_inj (a b : UInt8) (h : modByte a = modByte b) : a = b := by
  -- equal letters sit at equal places
  simp only [modByte_eq, List.cons.injEq, and_true, List.getElem_inj modHexMap_nodup] at h
  exact UInt8.toNat_inj.1 (by omega)

theorem flatMap_modByte_length (s : Bytes) : (s.flatMap modByte).length = 2 * s.length := by
  induction s with
  | nil => rfl
  | cons b r ih =>
    simp [modByte_eq, ih]
    omega

theorem flatMap_modByte_mem (s : Bytes) : ∀ c ∈ s.flatMap modByte, c ∈ modHexMap := by
  simp only [List.mem_flatMap, modByte_eq, List.mem_cons, List.not_mem_nil, or_false]
  rintro c ⟨b, _, rfl | rfl⟩ <;> exact List.getElem_mem _

/-- every byte gives two letters, so equal strings come from serials of equal length, byte by byte -/
theorem flatMap_modByte_inj (s t : Bytes) (h : s.flatMap modByte = t.flatMap modByte) : s = t := by
  induction s generalizing t with
  | nil =>
    cases t with
    | nil => rfl
    | cons b u => simp [modByte_eq] at h
  | cons a r ih =>
    cases t with
    | nil => simp [modByte_eq] at h
    | cons b u =>
      rw [List.flatMap_cons, List.flatMap_cons] at h
      obtain ⟨hab, hru⟩ := List.append_inj h (by rw [modByte_eq, modByte_eq]; rfl)
      rw [modByte_inj a b hab, ih u hru]

end Ysshra.Attest

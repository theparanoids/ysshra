import Ysshra.Gen.SnapMessage
/-
Pinned snapshot of Gen.SnapMessage (see extract/snap.go): the regenerated statements of the source files
equal, declaration by declaration, what the hand-written models and harnesses were written against.
`by rfl` and not the term `rfl`: the tactic compares the two literals directly and is half as dear to check.
-/
set_option maxRecDepth 100000
namespace Ysshra.Bridge.SnapMessage
open Ysshra

theorem message_marshal_pinned : Gen.SnapMessage.message_marshal = ([
  (c!"const", [c!"ifVerAttr = \"IFVer\"", c!"requesterAttr = \"req\"", c!"hardKeyAttr = \"HardKey\"", c!"touch2SSHAttr = \"Touch2SSH\"", c!"isFirefighterAttr = \"IsFirefighter\"", c!"touchlessSudoHostsAttr = \"TouchlessSudoHosts\"", c!"touchlessSudoTimeAttr = \"TouchlessSudoTime\"", c!"sshClientVersionAttr = \"SSHClientVersion\""]),
  (c!"(*Attributes).Marshal func() (string, error)", [c!"err := a.sanityCheck()", c!"if err != nil { return \"\", fmt.Errorf(\"gensign attributes sanity check failed, err: %v\", err) }", c!"if a.IfVer < 7 { return a.MarshalLegacy() }", c!"attrBytes, err := json.Marshal(a)", c!"if err != nil { return \"\", fmt.Errorf(\"failed to marshal ysshra gensign attributes: %v\", err) }", c!"return string(attrBytes), nil"]),
  (c!"Unmarshal func(attrsStr string) (*Attributes, error)", [c!"attrs := &Attributes{}", c!"if err := json.Unmarshal([]byte(attrsStr), attrs); err != nil { return UnmarshalLegacy(attrsStr) }", c!"err := attrs.sanityCheck()", c!"if err != nil { return nil, fmt.Errorf(\"gensign attributes sanity check failed, err: %v\", err) }", c!"attrs.populate()", c!"return attrs, nil"]),
  (c!"(*Attributes).ExtendedAttr func(key string) (interface{}, error)", [c!"val, ok := a.Exts[key]", c!"if ok { return val, nil }", c!"for extKey, extVal := range a.Exts { if strings.EqualFold(extKey, key) { return extVal, nil } }", c!"return nil, fmt.Errorf(\"%v not found in the extended attributes\", key)"]),
  (c!"(*Attributes).ExtendedAttrStr func(key string) (string, error)", [c!"attr, _ := a.ExtendedAttr(key)", c!"str, ok := attr.(string)", c!"if !ok { return \"\", fmt.Errorf(\"string for %v not found in the extended attributes\", key) }", c!"return str, nil"]),
  (c!"(*Attributes).ExtendedAttrBool func(key string) (bool, error)", [c!"attr, err := a.ExtendedAttr(key)", c!"if err != nil { return false, err }", c!"b, ok := attr.(bool)", c!"if ok { return b, nil }", c!"str, ok := attr.(string)", c!"if ok { return strconv.ParseBool(str) }", c!"return false, fmt.Errorf(\"value of %v in the extended attributes is not bool type, got %v\", key, attr)"]),
  (c!"(*Attributes).MarshalLegacy func() (string, error)", [c!"cmdArgs := []string{legacyInterfaceVersion}", c!"cmdArgs = append(cmdArgs, fmt.Sprintf(\"%s=%s\", sshClientVersionAttr, a.SSHClientVersion))", c!"cmdArgs = append(cmdArgs, fmt.Sprintf(\"%s=%s@%s\", requesterAttr, a.Username, a.Hostname))", c!"if a.HardKey { cmdArgs = append(cmdArgs, fmt.Sprintf(\"%s=%v\", hardKeyAttr, a.HardKey)) }", c!"if a.Touch2SSH { cmdArgs = append(cmdArgs, fmt.Sprintf(\"%s=%v\", touch2SSHAttr, a.Touch2SSH)) }", c!"if a.TouchlessSudo != nil { if a.TouchlessSudo.IsFirefighter { cmdArgs = append(cmdArgs, fmt.Sprintf(\"%s=%v\", isFirefighterAttr, a.TouchlessSudo.IsFirefighter)) } if len(a.TouchlessSudo.Hosts) != 0 { cmdArgs = append(cmdArgs, fmt.Sprintf(\"%s=%s\", touchlessSudoHostsAttr, a.TouchlessSudo.Hosts)) } if a.TouchlessSudo.Time != 0 { cmdArgs = append(cmdArgs, fmt.Sprintf(\"%s=%d\", touchlessSudoTimeAttr, int(a.TouchlessSudo.Time))) } }", c!"return strings.Join(cmdArgs, \" \"), nil"]),
  (c!"UnmarshalLegacy func(attrsStr string) (*Attributes, error)", [c!"attrs := parseAttrsLegacy(attrsStr)", c!"a := &Attributes{ Exts: map[string]interface{}{}, }", c!"if val, ok := attrs[ifVerAttr]; ok { a.IfVer, _ = strconv.Atoi(val) }", c!"a.SSHClientVersion = attrs[sshClientVersionAttr]", c!"requester, ok := attrs[requesterAttr]", c!"if !ok { return nil, fmt.Errorf(`cannot find requester field %q`, requesterAttr) }", c!"fields := strings.Split(requester, \"@\")", c!"if len(fields) != 2 { return nil, fmt.Errorf(`invalid requester format: %s`, requester) }", c!"a.Username = fields[0]", c!"a.Hostname = fields[1]", c!"if val, ok := attrs[hardKeyAttr]; ok { a.HardKey, _ = strconv.ParseBool(val) }", c!"if val, ok := attrs[touch2SSHAttr]; ok { a.Touch2SSH, _ = strconv.ParseBool(val) }", c!"t := &TouchlessSudo{}", c!"if val, ok := attrs[isFirefighterAttr]; ok { t.IsFirefighter, _ = strconv.ParseBool(val) }", c!"if val, ok := attrs[touchlessSudoHostsAttr]; ok { t.Hosts = val }", c!"if val, ok := attrs[touchlessSudoTimeAttr]; ok { t.Time, _ = strconv.ParseInt(val, 10, 0) }", c!"a.TouchlessSudo = t", c!"for key, val := range attrs { a.Exts[key] = val }", c!"return a, nil"]),
  (c!"parseAttrsLegacy func(attrsStr string) map[string]string", [c!"attrs := map[string]string{}", c!"attributes := strings.Split(attrsStr, \" \")", c!"for _, attribute := range attributes { attribute = strings.TrimSpace(attribute) if attribute == \"\" { continue } var key, value string if sep := strings.Index(attribute, \"=\"); sep == -1 { key, value = attribute, \"\" } else { key, value = attribute[:sep], attribute[sep+1:] } attrs[key] = value }", c!"return attrs"])
] : List (Str × List Str)) := by rfl

theorem message_sanity_pinned : Gen.SnapMessage.message_sanity = ([
  (c!"(*Attributes).sanityCheck func() error", [c!"if a.SSHClientVersion == \"\" { return errors.New(\"ssh client version cannot be empty\") }", c!"if a.Username == \"\" { return errors.New(\"user name cannot be empty\") }", c!"if a.Hostname == \"\" { return errors.New(\"host name cannot be empty\") }", c!"return nil"]),
  (c!"(*Attributes).populate func()", [c!"if a.TouchlessSudo == nil { a.TouchlessSudo = &TouchlessSudo{} }"])
] : List (Str × List Str)) := by rfl

theorem message_attrs_pinned : Gen.SnapMessage.message_attrs = ([
  (c!"const", [c!"legacyInterfaceVersion = \"IFVer=6\""]),
  (c!"type", [c!"Attributes struct { IfVer int `json:\"ifVer\"` Username string `json:\"username\"` Hostname string `json:\"hostname\"` SSHClientVersion string `json:\"sshClientVersion\"` CAPubKeyAlgo x509.PublicKeyAlgorithm `json:\"caPubKeyAlgo,omitempty\"` SignatureAlgo x509.SignatureAlgorithm `json:\"signatureAlgo,omitempty\"` HardKey bool `json:\"hardKey\"` Touch2SSH bool `json:\"touch2SSH,omitempty\"` TouchlessSudo *TouchlessSudo `json:\"touchlessSudo,omitempty\"` Exts map[string]interface{} `json:\"exts,omitempty\"` }"]),
  (c!"type", [c!"TouchlessSudo struct { IsFirefighter bool `json:\"isFirefighter,omitempty\"` Hosts string `json:\"hosts,omitempty\"` Time int64 `json:\"time,omitempty\"` }"])
] : List (Str × List Str)) := by rfl

end Ysshra.Bridge.SnapMessage

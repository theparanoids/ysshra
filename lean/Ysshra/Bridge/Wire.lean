import Ysshra.Gen.Wire
import Ysshra.Model.Serve
import Ysshra.Lemmas.Cond
/-
Bridge for agent/yubiagent (message codes, framing bound, dispatch partition, guards) and for the
condition-variable table of agent/shimagent.
-/
namespace Ysshra.Bridge.Wire

theorem bound_bridge :
    Gen.Wire.maxAgentResponseBytes_yubiagent = Wire.maxAgentResponseBytes ∧
    Gen.Wire.maxAgentResponseBytes_shimagent = Wire.maxAgentResponseBytes := ⟨by rfl, by rfl⟩

/-- the framed reader: header, bound check *before* `make`, body -/
theorem read_bridge : Gen.Wire.readStmts_yubiagent =
    [c!"var length [4]byte",
     c!"if _, err := io.ReadFull(c, length[:]); err != nil { return nil, err }",
     c!"l := binary.BigEndian.Uint32(length[:])",
     c!"if l > maxAgentResponseBytes { return nil, fmt.Errorf(\"data size too large: %d\", l) }",
     c!"data = make([]byte, l)",
     c!"if _, err := io.ReadFull(c, data); err != nil { return nil, err }",
     c!"return data, nil"] ∧ Gen.Wire.readStmts_shimagent = Gen.Wire.readStmts_yubiagent := ⟨by rfl, by rfl⟩

theorem write_bridge : Gen.Wire.writeStmts_yubiagent =
    [c!"if len(data) > maxAgentResponseBytes { return fmt.Errorf(\"data size too large: %d\", len(data)) }",
     c!"var length [4]byte",
     c!"binary.BigEndian.PutUint32(length[:], uint32(len(data)))",
     c!"if _, err := c.Write(length[:]); err != nil { return err }",
     c!"if _, err := c.Write(data); err != nil { return err }",
     c!"return nil"] ∧ Gen.Wire.writeStmts_shimagent = Gen.Wire.writeStmts_yubiagent := ⟨by rfl, by rfl⟩

/-- the dispatch partition of ServeAgent is the model's: five extension codes, nine standard
    codes handed to the recovering wrapper, everything else forwarded raw -/
theorem dispatch_bridge : Gen.Wire.dispatch =
    [([31], c!"agent.AddHardCert"), ([32], c!"agent.ListSlots"), ([33], c!"agent.ReadSlot"),
     ([34], c!"agent.AttestSlot"), ([35], c!"agent.Wait"),
     (Serve.stdCodes.map UInt8.toNat, c!"serveStandardRequest"), ([], c!"agent.Forward")] := by rfl

theorem recover_bridge : Gen.Wire.stdRequestRecovers = true := by decide

/-- every `req[k]` in ServeAgent is dominated by a returning guard `len(req) > k` -/
theorem guards_bridge : Gen.Wire.reqIndexGuarded.all (·.2) = true := by decide

theorem broadcast_bridge :
    Gen.Wire.broadcastBeforeDispatch = true ∧ Gen.Wire.broadcastArg = c!"req[0]" := ⟨by rfl, by rfl⟩

theorem success_bridge : Gen.Wire.clientSuccessTests =
    [c!"string(resp) != \"SUCCESS\"", c!"string(resp) != \"SUCCESS\""] := by rfl

theorem slots_bridge : Gen.Wire.listSlotsCond = c!"len(line) >= 7 && line[:4] == \"Slot\"" ∧
    Gen.Wire.listSlotsSlice = c!"line[5:7]" := ⟨by rfl, by rfl⟩

theorem remote_bridge : Gen.Wire.remoteGuards =
    [c!"ListSlots: if s.remote { return nil, erro", c!"ReadSlot: if s.remote { return nil, erro",
     c!"AttestSlot: if s.remote { return nil, erro"] := by rfl

theorem conds_bridge :
    Gen.Wire.condsLen = 40 ∧
    Gen.Wire.broadcastStmts =
      [c!"if msg < byte(len(s.conds)) { s.conds[msg].L.Lock() defer s.conds[msg].L.Unlock() s.conds[msg].Broadcast() }",
       c!"return nil"] ∧
    Gen.Wire.waitStmts =
      [c!"if msg < byte(len(s.conds)) { s.conds[msg].L.Lock() defer s.conds[msg].L.Unlock() s.conds[msg].Wait() }",
       c!"return nil"] := ⟨by rfl, by rfl, by rfl⟩

theorem waitCode_bridge : Gen.Wire.AgentMessageWait = Cond.waitCode.toNat := by decide

/-- with the regenerated table size, every code passing the guard indexes inside the table
    (all 256 codes) -/
theorem conds_in_range : ∀ c : UInt8, Cond.inRange Gen.Wire.condsLen c = true → c.toNat < Gen.Wire.condsLen :=
  fun _ => Cond.inRange_lt

end Ysshra.Bridge.Wire

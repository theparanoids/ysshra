import Ysshra.Model.Message
import Ysshra.Lemmas.Json
namespace Ysshra
namespace Message

/-! The model has one member loop per struct, `decodeMembersA` and `decodeMembersT`, so the next fact and its
proof come once for each. -/

theorem decodeMembersA_append (a : AttrsJ) (l1 l2 : List (Str × JVal)) :
    decodeMembersA a (l1 ++ l2) = (decodeMembersA a l1).bind (fun a' => decodeMembersA a' l2) := by
  induction l1 generalizing a with
  | nil => simp [decodeMembersA]
  | cons m r ih =>
    obtain ⟨name, v⟩ := m
    simp only [List.cons_append, decodeMembersA]
    cases fieldIndex tagsA name with
    | none => exact ih a
    | some i =>
      dsimp only
      cases setFieldA a i v with
      | none => simp
      | some a' => exact ih a'

theorem decodeMembersT_append (t : TSudo Str) (l1 l2 : List (Str × JVal)) :
    decodeMembersT t (l1 ++ l2) = (decodeMembersT t l1).bind (fun t' => decodeMembersT t' l2) := by
  induction l1 generalizing t with
  | nil => simp [decodeMembersT]
  | cons m r ih =>
    obtain ⟨name, v⟩ := m
    simp only [List.cons_append, decodeMembersT]
    cases fieldIndex tagsT name with
    | none => exact ih t
    | some i =>
      dsimp only
      cases setFieldT t i v with
      | none => simp
      | some t' => exact ih t'

theorem ia0 : fieldIndex tagsA c!"ifVer" = some 0 := by decide
theorem ia1 : fieldIndex tagsA c!"username" = some 1 := by decide
theorem ia2 : fieldIndex tagsA c!"hostname" = some 2 := by decide
theorem ia3 : fieldIndex tagsA c!"sshClientVersion" = some 3 := by decide
theorem ia4 : fieldIndex tagsA c!"caPubKeyAlgo" = some 4 := by decide
theorem ia5 : fieldIndex tagsA c!"signatureAlgo" = some 5 := by decide
theorem ia6 : fieldIndex tagsA c!"hardKey" = some 6 := by decide
theorem ia7 : fieldIndex tagsA c!"touch2SSH" = some 7 := by decide
theorem ia8 : fieldIndex tagsA c!"touchlessSudo" = some 8 := by decide
theorem ia9 : fieldIndex tagsA c!"exts" = some 9 := by decide
theorem it0 : fieldIndex tagsT c!"isFirefighter" = some 0 := by decide
theorem it1 : fieldIndex tagsT c!"hosts" = some 1 := by decide
theorem it2 : fieldIndex tagsT c!"time" = some 2 := by decide

theorem decTSudo_tsToJ (t : TSudo Str) (h : inI64 t.Time) :
    decTSudo none (tsToJ t) = some (some t) := by
  obtain ⟨ff, hosts, time⟩ := t
  simp only [decTSudo, tsToJ, decodeMembersT_append]
  have e1 : decodeMembersT ⟨false, [], 0⟩ (if ff = true then [(c!"isFirefighter", JVal.bool true)] else [])
      = some ⟨ff, [], 0⟩ := by
    cases ff <;> simp [decodeMembersT, it0, setFieldT, decBool]
  have e2 : decodeMembersT ⟨ff, [], 0⟩ (if hosts ≠ [] then [(c!"hosts", JVal.str hosts)] else [])
      = some ⟨ff, hosts, 0⟩ := by
    by_cases hh : hosts = []
    · simp [hh, decodeMembersT]
    · simp [hh, decodeMembersT, it1, setFieldT, decStr]
  have e3 : decodeMembersT ⟨ff, hosts, 0⟩ (if time ≠ 0 then [(c!"time", JVal.num (.ofInt time))] else [])
      = some ⟨ff, hosts, time⟩ := by
    by_cases ht : time = 0
    · simp [ht, decodeMembersT]
    · simp [ht, decodeMembersT, it2, setFieldT, decInt_ofInt h]
  simp only [e1, e2, e3, Option.bind_some, Option.map_some]

def keysNodup {V} (m : List (Str × V)) : Prop := (m.map (·.1)).Nodup

/-- later duplicates win; over distinct keys nothing is replaced -/
theorem foldl_mapSet_nodup {K V} [DecidableEq K] (l pre : List (K × V))
    (h : ((pre ++ l).map (·.1)).Nodup) :
    l.foldl (fun acc p => mapSet acc p.1 p.2) pre = pre ++ l := by
  induction l generalizing pre with
  | nil => simp
  | cons p r ih =>
    have hp : mapSet pre p.1 p.2 = pre ++ [p] := by
      unfold mapSet
      rw [List.filter_eq_self.2]
      intro q hq
      simp only [List.map_append] at h
      exact decide_eq_true ((List.nodup_append.1 h).2.2 q.1 (List.mem_map_of_mem hq) p.1
        (List.mem_map_of_mem List.mem_cons_self))
    rw [List.foldl_cons, hp, ih _ (by simpa using h)]
    simp

theorem decExts_obj (exts : JExts) (hn : keysNodup exts) (hf : anyFailsMembers exts = false) :
    decExts [] (.obj exts) = some exts := by
  simp only [decExts, hf]
  exact congrArg some (foldl_mapSet_nodup exts [] hn)

end Message

namespace C15
open Message

/-- well-formedness that Go's types give: machine integers, a map has distinct keys, and the
    extension values were produced by decoding JSON (no float overflow) -/
structure WF (a : AttrsJ) : Prop where
  ifver : inI64 a.IfVer
  ca : inI64 a.CAPubKeyAlgo
  sa : inI64 a.SignatureAlgo
  time : ∀ t, a.TouchlessSudo = some t → inI64 t.Time
  extsNodup : keysNodup a.Exts
  extsFinite : anyFailsMembers a.Exts = false

end C15

namespace Message

/-- The codec alone, required texts empty or not.  Each `omitempty` member is left out exactly when
    its field holds the zero value the decoder starts from, so every step arrives at the same
    struct either way. -/
theorem decodeStruct_toJ (a : AttrsJ) (wf : C15.WF a) : decodeStruct (some (toJ a)) = some a := by
  obtain ⟨ifver, user, host, ver, ca, sa, hk, t2s, ts, exts⟩ := a
  simp only [decodeStruct, toJ, decodeMembersA_append]
  have p1 : decodeMembersA zeroJ
      [(c!"ifVer", JVal.num (.ofInt ifver)), (c!"username", .str user), (c!"hostname", .str host),
       (c!"sshClientVersion", .str ver)] = some ⟨ifver, user, host, ver, 0, 0, false, false, none, []⟩ := by
    simp [decodeMembersA, ia0, ia1, ia2, ia3, setFieldA, decStr, decInt_ofInt wf.ifver, zeroJ]
  have p2 : decodeMembersA ⟨ifver, user, host, ver, 0, 0, false, false, none, []⟩
      (if ca ≠ 0 then [(c!"caPubKeyAlgo", JVal.num (.ofInt ca))] else []) =
      some ⟨ifver, user, host, ver, ca, 0, false, false, none, []⟩ := by
    by_cases h : ca = 0
    · simp [h, decodeMembersA]
    · simp [h, decodeMembersA, ia4, setFieldA, decInt_ofInt wf.ca]
  have p3 : decodeMembersA ⟨ifver, user, host, ver, ca, 0, false, false, none, []⟩
      (if sa ≠ 0 then [(c!"signatureAlgo", JVal.num (.ofInt sa))] else []) =
      some ⟨ifver, user, host, ver, ca, sa, false, false, none, []⟩ := by
    by_cases h : sa = 0
    · simp [h, decodeMembersA]
    · simp [h, decodeMembersA, ia5, setFieldA, decInt_ofInt wf.sa]
  have p4 : decodeMembersA ⟨ifver, user, host, ver, ca, sa, false, false, none, []⟩
      [(c!"hardKey", JVal.bool hk)] = some ⟨ifver, user, host, ver, ca, sa, hk, false, none, []⟩ := by
    simp [decodeMembersA, ia6, setFieldA, decBool]
  have p5 : decodeMembersA ⟨ifver, user, host, ver, ca, sa, hk, false, none, []⟩
      (if t2s = true then [(c!"touch2SSH", JVal.bool true)] else []) =
      some ⟨ifver, user, host, ver, ca, sa, hk, t2s, none, []⟩ := by
    cases t2s <;> simp [decodeMembersA, ia7, setFieldA, decBool]
  have p6 : decodeMembersA ⟨ifver, user, host, ver, ca, sa, hk, t2s, none, []⟩
      (tsMembers ts) = some ⟨ifver, user, host, ver, ca, sa, hk, t2s, ts, []⟩ := by
    cases ts with
    | none => simp [decodeMembersA, tsMembers]
    | some t =>
      simp [decodeMembersA, tsMembers, ia8, setFieldA, decTSudo_tsToJ t (wf.time t rfl)]
  have p7 : decodeMembersA ⟨ifver, user, host, ver, ca, sa, hk, t2s, ts, []⟩
      (if exts.isEmpty = true then [] else [(c!"exts", JVal.obj exts)]) =
      some ⟨ifver, user, host, ver, ca, sa, hk, t2s, ts, exts⟩ := by
    cases exts with
    | nil => simp [decodeMembersA]
    | cons e r =>
      simp [decodeMembersA, ia9, setFieldA, decExts_obj (e :: r) wf.extsNodup wf.extsFinite]
  simp only [p1, p2, p3, p4, p5, p6, p7, Option.bind_some]

theorem sane_eq_false_iff {E} (a : Attrs Str E) :
    sane List.isEmpty a = false ↔ a.SSHClientVersion = [] ∨ a.Username = [] ∨ a.Hostname = [] := by
  unfold sane
  cases a.SSHClientVersion <;> cases a.Username <;> cases a.Hostname <;> simp

theorem unmarshalLegacy_ne_crash (raw : Bytes) : unmarshalLegacy raw ≠ .crash := by
  unfold unmarshalLegacy
  dsimp only
  split <;> (try split) <;> simp

theorem unmarshal_ne_crash (tok : Option JVal) (raw : Bytes) : unmarshal tok raw ≠ .crash := by
  have := unmarshalLegacy_ne_crash raw
  unfold unmarshal
  split <;> split <;> simp_all

end Message
end Ysshra

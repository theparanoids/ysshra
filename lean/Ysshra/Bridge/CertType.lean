import Ysshra.Gen.CertType
/-
Bridge for sshutils/cert: the regenerated `GetType`, `GetPrincipals`, label table and suffix
constants equal the model's.
-/
namespace Ysshra.Bridge.CertType

theorem consts_bridge :
    Gen.CertType.UnknownCertType = CType.unknown.toNat ∧
    Gen.CertType.TouchSudoCert = CType.touchSudo.toNat ∧
    Gen.CertType.TouchlessCert = CType.touchless.toNat ∧
    Gen.CertType.TouchlessSudoCert = CType.touchlessSudo.toNat ∧
    Gen.CertType.FirefighterCert = CType.firefighter.toNat ∧
    Gen.CertType.NonceCert = CType.nonce.toNat ∧
    Gen.CertType.TouchlessInAgentCert = CType.touchlessInAgent.toNat ∧
    Gen.CertType.TouchlessSudoInAgentCert = CType.touchlessSudoInAgent.toNat ∧
    Gen.CertType.CriticalOptionTouchlessSudoHosts = critHosts ∧
    Gen.CertType.TouchlessLabel = touchlessSuffix ∧ Gen.CertType.TouchLabel = touchSuffix :=
  ⟨rfl, rfl, rfl, rfl, rfl, rfl, rfl, rfl, rfl, rfl, rfl⟩

theorem label_bridge (t : CType) : Gen.CertType.TypeLabel.lookup t.toNat = t.label := by
  cases t <;> rfl

theorem labelAppends_bridge : Gen.CertType.labelAppends = [c!"\"SSH-\" + k.TransID"] := by rfl

/-- the regenerated `GetType` is the model's `getType`, for every certificate -/
theorem getType_bridge (cert : Option CertView) :
    Gen.CertType.GetType cert = (getType cert).toNat := by
  cases cert with
  | none => rfl
  | some c =>
    unfold Gen.CertType.GetType getType
    dsimp only
    cases KeyID.unmarshal c.KeyId with
    | error e => rfl
    | ok k =>
      simp only [cascade, apply_ite CType.toNat]
      rfl

theorem getPrincipals_bridge (ps : List Str) (t : CType) :
    Gen.CertType.GetPrincipals ps t.toNat = getPrincipals ps t := by
  cases t <;> rfl

end Ysshra.Bridge.CertType
